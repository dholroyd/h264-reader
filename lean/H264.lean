-- bit level: the parser monad, exact decoders, properties every parser inherits
import H264.Bits
import H264.Codes
import H264.ParseAttr
import H264.CodesSimp
import H264.C07
import H264.C14
import H264.ClosedAttr
import H264.Closed
import H264.Mono
import H264.NoPanic
-- syntax parsers: model, the standard's syntax as encoder and ranges, one statement per structure, the whole parser
import H264.Sps
import H264.SpsStd
import H264.SpsCodes
import H264.Trailing
import H264.SpsC04
import H264.SpsConverse
import H264.SpsRangesAll
import H264.SpsOfEnc
import H264.Pps
import H264.PpsStd
import H264.PpsCodes
import H264.PpsC05
import H264.PpsConverse
import H264.Slice
import H264.SliceStd
import H264.SliceAlt
import H264.SliceWF
import H264.SliceCodes
import H264.SliceC06
import H264.SliceConverse
import H264.SliceRanges
import H264.PicTiming
import H264.SeiPayloads
import H264.SeiPayloadsFwd
import H264.ClosedParsers
import H264.SliceLoops
import H264.Derived
import H264.Overflow
-- Annex B framing
import H264.AnnexBL0
import H264.AnnexBPush
import H264.AnnexBSpec
import H264.AnnexBShapes
import H264.AnnexBOps
import H264.Serialise
-- RBSP un-escaping and the NAL as the parsers see it
import H264.Rbsp
import H264.RbspStep
import H264.RbspSpec
import H264.EscapeNoSC
import H264.RbspScan
import H264.RefNal
import H264.RefNalProofs
import H264.RbspTryFill
import H264.RbspFill
import H264.RbspRead
import H264.Fast
import H264.DecodeNal
import H264.NalSrc
import H264.RbspInit
import H264.DecodeNalSpec
import H264.NalSrcProofs
import H264.NalPrefix
-- adapters: accumulator, SEI reader, parameter-set context, AVC configuration record; reachable contexts, size ledger, end to end
import H264.Accum
import H264.AccumCor
import H264.Framing
import H264.EndToEnd
import H264.Sei
import H264.SeiMono
import H264.SeiScratch
import H264.Context
import H264.History
import H264.Avcc
import H264.AvccCtx
import H264.AvccBuild
import H264.AvccCtxProofs
import H264.Alloc
-- rendering, generators, driver commands (the executables' side)
import H264.Render
import H264.Render2
import H264.Render3
import H264.Gen
import H264.Gen2
import H264.Gen3
import H264.Driver2
import H264.TblModel
-- tied to the running code: regenerated tables and rows, and the theorems over them, one module per property
import H264.GeneratedTables
import H264.GeneratedBits
import H264.GeneratedBytes
import H264.GeneratedSmall
import H264.TableEq
import H264.C20Hdr
import H264.C20Prof
import H264.C20Ids
import H264.C20T35
import H264.Tables2
import H264.Tables2C04
import H264.Tables2C06
import H264.Tables2C10
import H264.Tables2C11
import H264.TblProof
import H264.TblProofC04
import H264.TblProofC06
import H264.TblProofC10
import H264.TblProofC11
import H264.BitsProof
import H264.BitsProofRows
import H264.BitsProofC07
import H264.BitsProofC14
import H264.ByteProof
import H264.ByteProofC01
import H264.ByteProofC02
import H264.ByteProofC18
import H264.SmallProof
import H264.SmallNalDefs
import H264.SmallProofC05
import H264.SmallProofC08
import H264.SmallProofC09
import H264.SmallProofC10
import H264.SmallProofC12
import H264.SmallProofC13
import H264.SmallProofC15
import H264.SmallProofC16
import H264.SmallProofC16Slice
import H264.SmallProofC17
import H264.SmallProofC19
-- the property theorems
import H264.Properties.C01
import H264.Properties.C02
import H264.Properties.C03
import H264.Properties.C04
import H264.Properties.C05
import H264.Properties.C06
import H264.Properties.C07
import H264.Properties.C08
import H264.Properties.C09
import H264.Properties.C10
import H264.Properties.C11
import H264.Properties.C12
import H264.Properties.C13
import H264.Properties.C14
import H264.Properties.C15
import H264.Properties.C16
import H264.Properties.C17
import H264.Properties.C18
import H264.Properties.C19
import H264.Properties.C20
