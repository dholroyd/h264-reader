import H264.SeiScratch
import H264.GeneratedSmall
/-! the SEI reader on a complete small domain (C10) -/
namespace SmallProof

def wordsOf4 (alpha : List Nat) : Nat → List (List Nat)
  | 0 => [[]]
  | n+1 => alpha.flatMap fun a => (wordsOf4 alpha n).map (a :: ·)
def words4 (alpha : List Nat) : List (List Nat) := (List.range 6).flatMap (wordsOf4 alpha)

/-- run the reader (with its scratch vector, as the driver does) until it has reported the end / an error three times -/
def seiRun : Nat → Nat → Sei.Reader → List UInt8 → List (List Nat)
  | 0, _, _, _ => []
  | fuel+1, extra, r, sc =>
    if extra ≥ 3 then [] else
    match Sei.nextS r sc with
    | (r', .ok (some m), sc') => (1 :: m.1 :: m.2.length :: m.2.map (·.toNat)) :: seiRun fuel extra r' sc'
    | (r', .ok none, sc') => [0] :: seiRun fuel (extra + 1) r' sc'
    | (r', .error e, sc') => [2, (match e with | .io _ .eof => 2 | _ => 3)] :: seiRun fuel (extra + 1) r' sc'

def seiRow (w : List Nat) : List (List Nat) :=
  seiRun 12 0 ⟨⟨w.map UInt8.ofNat, .eof⟩, 0, false⟩ [0xAA, 0xAA, 0xAA]

/-- model `Sei.nextS` = real `SeiReader::next` on every RBSP of length 0…5 over {00, 01, 80, ff} (1 365 inputs): every message (type,
length, payload), the end, every error class, and that the reader stays ended afterwards -/
theorem sei_model_eq_code : (words4 [0x00, 0x01, 0x80, 0xff]).map seiRow = Generated.seiRows :=
  eq_of_beq (by decide +kernel)

end SmallProof
