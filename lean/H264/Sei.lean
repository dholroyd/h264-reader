import H264.Bits
/-! C10: `SeiReader::next` over the drained RBSP bytes -/
namespace Sei
open Bits

structure BSrc where
  bytes : List UInt8
  fin : IoKind
deriving DecidableEq, Repr

/-- `read_u32`: sum of 0xFF bytes plus the first non-0xFF byte, with `checked_add` -/
def readU32 (name : String) (fin : IoKind) : List UInt8 → Nat → Except Err (Nat × List UInt8)
  | [], _ => .error (.io name fin)
  | b :: bs, acc =>
    let acc' := acc + b.toNat
    if acc' ≥ 4294967296 then .error (.io name .invalidData)
    else if b ≠ 0xFF then .ok (acc', bs)
    else readU32 name fin bs acc'

structure Reader where
  src : BSrc
  payloadsSeen : Nat
  done : Bool
deriving DecidableEq, Repr

abbrev Msg := Nat × List UInt8

def next (r : Reader) : Reader × Except Err (Option Msg) :=
  if r.done then (r, .ok none) else
  let rd := { r with done := true }
  match readU32 "payload_type" r.src.fin r.src.bytes 0 with
  | .error e => (rd, .error e)
  | .ok (ty, rest) =>
    -- a 0x80 that is not the first payload may be the trailing bits: check for EOF
    if ty = 0x80 ∧ r.payloadsSeen > 0 ∧ rest = [] then
      (if r.src.fin = .eof then (rd, .ok none) else (rd, .error (.io "payload_type" r.src.fin)))
    else
    match readU32 "payload_len" r.src.fin rest 0 with
    | .error e => (rd, .error e)
    | .ok (len, rest2) =>
      if rest2.length < len then (rd, .error (.io "payload" r.src.fin))
      else ({ src := ⟨rest2.drop len, r.src.fin⟩, payloadsSeen := r.payloadsSeen + 1, done := false },
            .ok (some (ty, rest2.take len)))

/-! ### the standard's sei_message framing (7.3.2.3.1) -/
def encU32 (n : Nat) : List UInt8 := List.replicate (n / 255) 0xFF ++ [UInt8.ofNat (n % 255)]
def encMsg (m : Msg) : List UInt8 := encU32 m.1 ++ encU32 m.2.length ++ m.2
def encSei (ms : List Msg) : List UInt8 := (ms.map encMsg).flatten ++ [0x80]

theorem readU32_run (name : String) (fin : IoKind) (k : Nat) (b : UInt8) (hb : b ≠ 0xFF) (rest : List UInt8) (acc : Nat) :
    readU32 name fin (List.replicate k 0xFF ++ b :: rest) acc =
      if acc + 255 * k + b.toNat ≥ 4294967296 then .error (.io name .invalidData)
      else .ok (acc + 255 * k + b.toNat, rest) := by
  induction k generalizing acc with
  | zero => rw [List.replicate_zero, List.nil_append, readU32]; simp [hb]
  | succ k ih =>
    have h255 : (0xFF : UInt8).toNat = 255 := by decide
    rw [List.replicate_succ, List.cons_append, readU32, h255]
    by_cases hov : acc + 255 ≥ 4294967296
    · rw [if_pos hov, if_pos (by omega)]
    · rw [if_neg hov, if_neg (by simp), ih, show acc + 255 + 255 * k = acc + 255 * (k + 1) by omega]

theorem readU32_encU32 (name : String) (fin : IoKind) (n acc : Nat) (rest : List UInt8) :
    readU32 name fin (encU32 n ++ rest) acc =
      if acc + n ≥ 4294967296 then .error (.io name .invalidData) else .ok (acc + n, rest) := by
  have hb : (UInt8.ofNat (n % 255)).toNat = n % 255 := by rw [UInt8.toNat_ofNat']; omega
  rw [encU32, List.append_assoc, List.singleton_append,
    readU32_run name fin _ _ (fun h => by have := congrArg UInt8.toNat h; rw [hb] at this; simp at this; omega),
    hb, show acc + 255 * (n / 255) + n % 255 = acc + n by omega]
theorem readU32_enc (name fin) (n acc : Nat) (h : acc + n < 4294967296) (rest : List UInt8) :
    readU32 name fin (encU32 n ++ rest) acc = .ok (acc + n, rest) := by
  rw [readU32_encU32, if_neg (by omega)]

/-- **C10 (overflow)**: a type or size whose 0xFF-extension coding sums to 2³² or more is an error — never a wrapped
value — whatever follows -/
theorem readU32_too_large (name : String) (fin : IoKind) (n : Nat) (hn : n ≥ 4294967296) (rest : List UInt8) :
    readU32 name fin (encU32 n ++ rest) 0 = .error (.io name .invalidData) := by
  rw [readU32_encU32, if_pos (by omega)]

theorem readU32_enc0 (name fin) {n : Nat} (h : n < 4294967296) (rest : List UInt8) :
    readU32 name fin (encU32 n ++ rest) 0 = .ok (n, rest) := by
  rw [readU32_enc name fin n 0 (by omega), Nat.zero_add]

/-- the converse of `readU32_run` -/
theorem readU32_ok {name : String} {fin : IoKind} {bs : List UInt8} {acc n : Nat} {rest : List UInt8}
    (h : readU32 name fin bs acc = .ok (n, rest)) :
    ∃ k b, bs = List.replicate k 0xFF ++ b :: rest ∧ b ≠ 0xFF ∧ n = acc + 255 * k + b.toNat ∧ n < 4294967296 := by
  induction bs generalizing acc with
  | nil => cases h
  | cons b bs ih =>
    rw [readU32] at h
    by_cases hov : acc + b.toNat ≥ 4294967296
    · rw [if_pos hov] at h; cases h
    · rw [if_neg hov] at h
      by_cases hff : b ≠ 0xFF
      · rw [if_pos hff] at h; cases h; exact ⟨0, b, rfl, hff, by omega, by omega⟩
      · rw [if_neg hff] at h
        obtain ⟨k, c, rfl, hc, hn, hlt⟩ := ih h
        obtain rfl : b = 0xFF := by simpa using hff
        have h255 : (0xFF : UInt8).toNat = 255 := by decide
        exact ⟨k + 1, c, rfl, hc, by rw [hn, h255]; omega, hlt⟩

/-- the graph of `next` on a reader that is not done: each outcome with the reads that lead to it -/
inductive Next (r : Reader) : Reader × Except Err (Option Msg) → Prop
  | typeErr {e} : readU32 "payload_type" r.src.fin r.src.bytes 0 = .error e → Next r ({ r with done := true }, .error e)
  | ended : readU32 "payload_type" r.src.fin r.src.bytes 0 = .ok (0x80, []) → r.payloadsSeen > 0 →
      r.src.fin = .eof → Next r ({ r with done := true }, .ok none)
  | trailing : readU32 "payload_type" r.src.fin r.src.bytes 0 = .ok (0x80, []) → r.payloadsSeen > 0 →
      r.src.fin ≠ .eof → Next r ({ r with done := true }, .error (.io "payload_type" r.src.fin))
  | lenErr {ty rest e} : readU32 "payload_type" r.src.fin r.src.bytes 0 = .ok (ty, rest) →
      ¬(ty = 0x80 ∧ r.payloadsSeen > 0 ∧ rest = []) → readU32 "payload_len" r.src.fin rest 0 = .error e →
      Next r ({ r with done := true }, .error e)
  | short {ty rest len rest2} : readU32 "payload_type" r.src.fin r.src.bytes 0 = .ok (ty, rest) →
      ¬(ty = 0x80 ∧ r.payloadsSeen > 0 ∧ rest = []) → readU32 "payload_len" r.src.fin rest 0 = .ok (len, rest2) →
      rest2.length < len → Next r ({ r with done := true }, .error (.io "payload" r.src.fin))
  | msg {ty rest len rest2} : readU32 "payload_type" r.src.fin r.src.bytes 0 = .ok (ty, rest) →
      ¬(ty = 0x80 ∧ r.payloadsSeen > 0 ∧ rest = []) → readU32 "payload_len" r.src.fin rest 0 = .ok (len, rest2) →
      len ≤ rest2.length →
      Next r (⟨⟨rest2.drop len, r.src.fin⟩, r.payloadsSeen + 1, false⟩, .ok (some (ty, rest2.take len)))

theorem next_of {r : Reader} {x : Reader × Except Err (Option Msg)} (hd : r.done = false) (h : Next r x) :
    next r = x := by
  cases h with
  -- in one step `hf` would rewrite `r.src.fin` inside the read before `h1` can apply
  | ended h1 hs hf => simp only [next, hd, h1]; simp [hs, hf]
  | _ => simp [next, *]

theorem next_spec (r : Reader) (hd : r.done = false) : Next r (next r) := by
  -- `Next r` is functional (`next_of`), so it is enough to exhibit some outcome that it relates to `r`
  suffices h : ∃ x, Next r x by obtain ⟨x, hx⟩ := h; rwa [next_of hd hx]
  cases h1 : readU32 "payload_type" r.src.fin r.src.bytes 0 with
  | error e => exact ⟨_, .typeErr h1⟩
  | ok v =>
    obtain ⟨ty, rest⟩ := v
    by_cases hne : ty = 0x80 ∧ r.payloadsSeen > 0 ∧ rest = []
    · obtain ⟨rfl, hs, rfl⟩ := hne
      by_cases hf : r.src.fin = .eof
      · exact ⟨_, .ended h1 hs hf⟩
      · exact ⟨_, .trailing h1 hs hf⟩
    · cases h2 : readU32 "payload_len" r.src.fin rest 0 with
      | error e => exact ⟨_, .lenErr h1 hne h2⟩
      | ok w =>
        by_cases hl : w.2.length < w.1
        · exact ⟨_, .short h1 hne h2 hl⟩
        · exact ⟨_, .msg h1 hne h2 (Nat.le_of_not_lt hl)⟩


theorem encU32_ne_nil (n : Nat) : encU32 n ≠ [] := by simp [encU32]

def Msg.WF (m : Msg) : Prop := m.1 < 4294967296 ∧ m.2.length < 4294967296

/-- one message is returned exactly, wherever it stands in the NAL (also a type-128 message) -/
theorem next_msg (m : Msg) (wf : m.WF) (tl : List UInt8) (seen : Nat) :
    next ⟨⟨encMsg m ++ tl, .eof⟩, seen, false⟩ = (⟨⟨tl, .eof⟩, seen + 1, false⟩, .ok (some m)) := by
  have h := next_of (r := ⟨⟨encMsg m ++ tl, .eof⟩, seen, false⟩) rfl
    (.msg (by rw [encMsg, List.append_assoc, List.append_assoc]; exact readU32_enc0 _ _ wf.1 _)
      (fun h => encU32_ne_nil _ (List.append_eq_nil_iff.mp h.2.2).1)
      (readU32_enc0 _ _ wf.2 _) (by simp))
  simpa using h

/-- the trailing-bits byte after at least one message ends the sequence … -/
theorem next_end (seen : Nat) (h : seen > 0) :
    next ⟨⟨[0x80], .eof⟩, seen, false⟩ = (⟨⟨[0x80], .eof⟩, seen, true⟩, .ok none) :=
  next_of rfl (.ended rfl h rfl)

/-- … and from then on (also after any error) every call reports the end -/
theorem next_done (r : Reader) (h : r.done = true) : next r = (r, .ok none) := by
  simp [next, h]

theorem next_sets_done_on_failure (r : Reader) (hd : r.done = false) :
    (∃ m, (next r).2 = .ok (some m) ∧ (next r).1.done = false) ∨ (next r).1.done = true := by
  have h := next_spec r hd
  generalize next r = x at h ⊢
  cases h with
  | msg => exact .inl ⟨_, rfl, rfl⟩
  | _ => exact .inr rfl

/-- read everything: the messages in order, then the end -/
def readAll : Nat → Reader → List Msg → List Msg × Except Err Unit
  | 0, _, acc => (acc, .ok ())
  | fuel+1, r, acc =>
    match next r with
    | (_, .error e) => (acc, .error e)
    | (_, .ok none) => (acc, .ok ())
    | (r', .ok (some m)) => readAll fuel r' (acc ++ [m])

/-- **C10 (round trip)**: the reader returns exactly the encoded messages, in order, then the end -/
theorem C10_roundtrip (ms : List Msg) (wf : ∀ m ∈ ms, m.WF) (seen : Nat) (hs : seen > 0 ∨ ms ≠ []) (acc : List Msg) :
    readAll (ms.length + 1) ⟨⟨(ms.map encMsg).flatten ++ [0x80], .eof⟩, seen, false⟩ acc = (acc ++ ms, .ok ()) := by
  induction ms generalizing seen acc with
  | nil =>
    have : seen > 0 := by rcases hs with h | h; exact h; exact absurd rfl h
    simp [readAll, next_end seen this]
  | cons m ms ih =>
    obtain ⟨wm, wms⟩ := List.forall_mem_cons.mp wf
    have hm := next_msg m wm ((ms.map encMsg).flatten ++ [0x80]) seen
    simp only [List.map_cons, List.flatten_cons, List.append_assoc, List.length_cons] at hm ⊢
    rw [readAll, hm]
    simp only
    rw [ih wms (seen + 1) (Or.inl (by omega)) (acc ++ [m])]
    simp

#print axioms C10_roundtrip

/-- a type or size whose 0xFF-extension sum does not fit 32 bits is an error, never a wrapped value -/
theorem readU32_overflow (name fin) (bs : List UInt8) (acc : Nat) (h : acc < 4294967296) :
    match readU32 name fin bs acc with
    | .ok (v, _) => v < 4294967296
    | .error _ => True := by
  split
  · rename_i h'; obtain ⟨_, _, _, _, _, hlt⟩ := readU32_ok h'; exact hlt
  · trivial

/-- a payload running past the data is an error, and the reader is then finished -/
theorem next_truncated (ty len : Nat) (hty : ty < 4294967296) (hlen : len < 4294967296)
    (pl : List UInt8) (hshort : pl.length < len) (seen : Nat) (fin : IoKind) :
    next ⟨⟨encU32 ty ++ encU32 len ++ pl, fin⟩, seen, false⟩ =
      (⟨⟨encU32 ty ++ encU32 len ++ pl, fin⟩, seen, true⟩, .error (.io "payload" fin)) :=
  next_of rfl (.short (by rw [List.append_assoc]; exact readU32_enc0 _ _ hty _)
    (fun h => encU32_ne_nil _ (List.append_eq_nil_iff.mp h.2.2).1) (readU32_enc0 _ _ hlen _) hshort)

#print axioms next_truncated
end Sei
