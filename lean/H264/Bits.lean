/-! The bit-level reader: sources, the parser monad, the primitive reads and their encoders (7.2, 9.1) -/
namespace Bits

inductive IoKind | eof | wouldBlock | invalidData | invalidInput
deriving DecidableEq, Repr

inductive Err
  | io (name : String) (k : IoKind)
  | tooLarge (name : String)
  | remaining
  | other (tag : String)
  | unsupported (tag : String)
  | panic (tag : String)
deriving DecidableEq, Repr

structure Src where
  bits : List Bool
  fin : IoKind      -- what the byte source reports once `bits` is exhausted
deriving DecidableEq, Repr

abbrev P (α : Type) := Src → Except Err (α × Src)

@[inline] def P.pure {α} (a : α) : P α := fun s => .ok (a, s)
@[inline] def P.bind {α β} (p : P α) (f : α → P β) : P β := fun s =>
  match p s with
  | .ok (a, s') => f a s'
  | .error e => .error e

instance : Monad P where
  pure := P.pure
  bind := P.bind

def fail {α} (e : Err) : P α := fun _ => .error e

@[simp] theorem pure_run {α} (a : α) (s : Src) : (pure a : P α) s = .ok (a, s) := rfl
@[simp] theorem bind_run {α β} (p : P α) (f : α → P β) (s : Src) :
    (p >>= f) s = match p s with | .ok (a, s') => f a s' | .error e => .error e := rfl
@[simp] theorem fail_run {α} (e : Err) (s : Src) : (fail e : P α) s = .error e := rfl

theorem bind_ok_iff {α β} (p : P α) (f : α → P β) (s : Src) (r : β × Src) :
    (p >>= f) s = .ok r ↔ ∃ a s', p s = .ok (a, s') ∧ f a s' = .ok r := by
  simp only [bind_run]
  cases h : p s with
  | error e => simp
  | ok v =>
    obtain ⟨a, s'⟩ := v
    constructor
    · intro hf; exact ⟨a, s', rfl, hf⟩
    · rintro ⟨a', s'', heq, hf⟩; cases heq; exact hf

/-- `n` bits, big endian, of `v` -/
def encBits : Nat → Nat → List Bool
  | 0, _ => []
  | n+1, v => decide (2^n ≤ v) :: encBits n (v % 2^n)

def readBit (name : String) : P Bool := fun s =>
  match s.bits with
  | b :: bs => .ok (b, ⟨bs, s.fin⟩)
  | [] => .error (.io name s.fin)

def readBits (name : String) : Nat → P Nat
  | 0 => pure 0
  | n+1 => do
      let b ← readBit name
      let r ← readBits name n
      pure (b.toNat * 2^n + r)

def unaryGo (name : String) (fin : IoKind) : List Bool → Nat → Except Err (Nat × Src)
  | [], _ => .error (.io name fin)
  | true :: bs, acc => .ok (acc, ⟨bs, fin⟩)
  | false :: bs, acc => unaryGo name fin bs (acc + 1)

/-- number of leading zeros before the first 1; consumes the 1 -/
def readUnary1 (name : String) : P Nat := fun s => unaryGo name s.fin s.bits 0

def readUe (name : String) : P Nat := do
  let count ← readUnary1 name
  if count > 31 then fail (.tooLarge name)
  else if count > 0 then
    let v ← readBits name count
    pure (2^count - 1 + v)
  else pure 0

/-- codeword with `n` leading zeros and suffix value `v < 2^n` -/
def encUe' (n v : Nat) : List Bool := List.replicate n false ++ true :: encBits n v

def encUe (k : Nat) : List Bool :=
  let n := Nat.log2 (k + 1)
  encUe' n (k + 1 - 2^n)

/-! ### u(1) -/
def readBool (name : String) : P Bool := readBit name
def encBool (b : Bool) : List Bool := [b]

/-! ### se(v) -/

/-- mathematical mapping of 9.1.1: codeNum k ↦ (−1)^(k+1) ⌈k/2⌉ -/
def seOfUe (k : Nat) : Int := if k % 2 = 1 then ((k + 1) / 2 : Nat) else -((k / 2 : Nat) : Int)
def ueOfSe (v : Int) : Nat := if v > 0 then (2 * v - 1).toNat else (-2 * v).toNat

def readSe (name : String) : P Int := do
  let k ← readUe name
  pure (seOfUe k)

def encSe (v : Int) : List Bool := encUe (ueOfSe v)

/-- the `se(v)` values the 32-bit code space can carry -/
def SeRange (v : Int) : Prop := -(2^31 - 1) ≤ v ∧ v ≤ 2^31 - 1

/-! ### more_rbsp_data / trailing bits (C14) -/

/-- `has_more_rbsp_data`: on a clone, skip one bit and look for a 1 -/
def hasMore (name : String) : P Bool := fun s =>
  match s.bits with
  | [] => if s.fin = .eof then .ok (false, s) else .error (.io name s.fin)
  | _ :: rest =>
    if rest.any id then .ok (true, s)
    else if s.fin = .eof then .ok (false, s) else .error (.io name s.fin)

/-- `finish_rbsp` -/
def finishRbsp : P Unit := fun s =>
  match s.bits with
  | [] => .error (.io "finish" s.fin)
  | false :: rest => if rest.any id then .error .remaining else .error (.io "finish" s.fin)
  | true :: rest =>
    if rest.any id then .error .remaining
    else if s.fin = .eof then .ok ((), ⟨[], s.fin⟩) else .error (.io "finish" s.fin)

/-- `finish_sei_payload` -/
def finishSei : P Unit := fun s =>
  match s.bits with
  | [] => if s.fin = .eof then .ok ((), s) else .error (.io "finish" s.fin)
  | false :: _ => .error .remaining
  | true :: rest =>
    if rest.any id then .error .remaining
    else if s.fin = .eof then .ok ((), ⟨[], s.fin⟩) else .error (.io "finish" s.fin)

end Bits
