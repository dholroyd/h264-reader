import H264.SmallNalDefs
/-! four NAL units as every prefix (C17) -/
namespace SmallProof


def prefixInputs : List (Nat × Nat) :=
  (List.range 4).flatMap fun k => (List.range (nalBytes k).length).map fun l => (k, l + 1)

/-- model = real code on every prefix: an SPS, a PPS, a P-slice and a two-message SEI NAL, each presented as every proper prefix
(incomplete) and complete: the model parsers over the model byte reader block, accept (with the same id / frame_num / number of
messages) or refuse exactly where the real parsers did in this run's graph -/
theorem prefixes_model_eq_code : prefixInputs.map (fun x => prefixRow x.1 x.2) = Generated.prefixRows := by decide +kernel

end SmallProof
