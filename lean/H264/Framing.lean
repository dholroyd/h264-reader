import H264.Serialise
import H264.AnnexBOps
import H264.Accum
/-! C12: Annex B reader ∘ accumulator on a chunked, serialised NAL sequence delivers every NAL
completely, exactly once, in order and byte-identical (handler policy: always `Buffer`) -/
namespace C12
open AnnexB Accum

/-- group an event stream into units (bytes between end markers); empty units are dropped, as the accumulator
never shows an empty NAL -/
def splitUnits : List UInt8 → List Ev → List (List UInt8)
  | _, [] => []
  | cur, .byte b :: es => splitUnits (cur ++ [b]) es
  | cur, .endUnit :: es => (if cur = [] then [] else [cur]) ++ splitUnits [] es

def stepsOf (calls : List Call) : List Step := calls.map fun c => ⟨c.bufs, c.fin, .buffer⟩

def completeOnes (l : List (List UInt8 × Bool)) : List (List UInt8) := (l.filter (·.2)).map (·.1)

theorem splitUnits_bytes (cur bs : List UInt8) (es : List Ev) :
    splitUnits cur (bs.map Ev.byte ++ es) = splitUnits (cur ++ bs) es := by
  induction bs generalizing cur with
  | nil => simp
  | cons b bs ih => simp [splitUnits, ih]

theorem completeOnes_cons (x : List UInt8 × Bool) (l : List (List UInt8 × Bool)) :
    completeOnes (x :: l) = (if x.2 then [x.1] else []) ++ completeOnes l := by
  cases h : x.2 <;> simp [completeOnes, h]

/-- with an always-`Buffer` handler the complete invocations are exactly the non-empty units of the event stream -/
theorem complete_eq_units (calls : List Call) (cur : List UInt8) :
    completeOnes (specRun ⟨cur, false⟩ (stepsOf calls)) = splitUnits cur (events calls) := by
  induction calls generalizing cur with
  | nil => simp [stepsOf, specRun, completeOnes, events, splitUnits]
  | cons c cs ih =>
    have hev : events (c :: cs) = c.bufs.flatten.map Ev.byte ++ ((if c.fin then [Ev.endUnit] else []) ++ events cs) := by
      simp [events, Call.events, List.append_assoc]
    rw [hev, splitUnits_bytes]
    have hbeq : (Interest.buffer == Interest.ignore) = false := by decide
    have hs : stepsOf (c :: cs) = ⟨c.bufs, c.fin, .buffer⟩ :: stepsOf cs := rfl
    rw [hs, specRun]
    cases hf : c.fin <;> by_cases he : cur ++ c.bufs.flatten = [] <;>
      simp [ghostStep, splitUnits, completeOnes_cons, he, hbeq, ih]

theorem splitUnits_unitsOf (nals : List (Nat × List UInt8)) (h : ∀ p ∈ nals, p.2 ≠ []) :
    splitUnits [] (unitsOf nals) = nals.map (·.2) := by
  induction nals with
  | nil => simp [unitsOf, splitUnits]
  | cons p rest ih =>
    obtain ⟨hp, hrest⟩ := List.forall_mem_cons.mp h
    rw [unitsOf_cons, splitUnits_bytes]
    simp [splitUnits, hp, ih hrest]

theorem splitUnits_serialise (nals : List (Nat × List UInt8)) (hok : ∀ p ∈ nals, NalOk p.2) :
    splitUnits [] (outside (serialise nals)) = nals.map (·.2) := by
  rw [segment_serialise nals hok]
  exact splitUnits_unitsOf nals fun p hp => (hok p hp).1

theorem pushAll_shaped (s : St) (chunks : List (List UInt8)) : ∀ c ∈ (pushAll s chunks).2, c.WellShaped := by
  rw [pushAll_eq_runOps]
  exact runOps_shaped s _

/-- the handler calls of a whole stream, final `reset` included, pass only non-empty slices -/
theorem final_steps_nonempty (chunks : List (List UInt8)) :
    ∀ s ∈ stepsOf ((pushAll St.start chunks).2 ++ (reset (pushAll St.start chunks).1).2), ∀ b ∈ s.bufs, b ≠ [] := by
  intro s hs b hb
  simp only [stepsOf, List.mem_map] at hs
  obtain ⟨c, hc, rfl⟩ := hs
  rcases List.mem_append.mp hc with h | h
  · exact (pushAll_shaped _ _ c h).1 b hb
  · exact (reset_shaped _ c h).1 b hb

/-- any byte stream, cut anyhow: after the final `reset` the complete invocations of the always-`Buffer` handler carry
the non-empty units of the Annex B segmentation -/
theorem complete_are_units (chunks : List (List UInt8)) :
    let calls := (pushAll St.start chunks).2 ++ (reset (pushAll St.start chunks).1).2
    completeOnes (obs (Accum.run Accum.init (stepsOf calls) []).2) = splitUnits [] (outside chunks.flatten) := by
  intro calls
  obtain ⟨hrun, _⟩ := Accum.run_spec Accum.init ⟨[], false⟩ Accum.inv_init (stepsOf calls) (final_steps_nonempty chunks) []
  rw [hrun]
  simp only [obs, List.map_nil, List.nil_append]
  rw [complete_eq_units calls [], show events calls = _ from C01_reset chunks]

/-- **C12 (framing + accumulation)**: however the serialised stream is cut into `push` calls, after the final
`reset` the always-`Buffer` handler has been shown every NAL unit completely, exactly once, in order, byte-identical -/
theorem C12_framing (nals : List (Nat × List UInt8)) (hok : ∀ p ∈ nals, NalOk p.2)
    (chunks : List (List UInt8)) (hcut : chunks.flatten = serialise nals) :
    let calls := (pushAll St.start chunks).2 ++ (reset (pushAll St.start chunks).1).2
    completeOnes (obs (Accum.run Accum.init (stepsOf calls) []).2) = nals.map (·.2) := by
  intro calls
  rw [complete_are_units chunks, hcut]
  exact splitUnits_serialise nals hok

#print axioms C12_framing
end C12
