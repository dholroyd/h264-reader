import H264.SliceAlt
import H264.SpsStd
/-! The conditions of the slice header: for each element of 7.3.3 when it is present and in which range (7.4.3), as far
as the parser checks it; `SliceWF` collects them, `encSliceHeaderAlt` is the encoder with the two many-to-one spots
open. -/
namespace Slice
open Bits Sps Pps

def ModOp.WF : ModOp → Prop
  | .subtract v => Ue v | .add v => Ue v | .longTermRef v => Ue v

def ModsWF (fam : Family) : RefPicListMods → Prop
  | .I => fam = .I ∨ fam = .SI
  | .P a => (fam = .P ∨ fam = .SP) ∧ ∀ o ∈ a, o.WF
  | .B a b => fam = .B ∧ (∀ o ∈ a, o.WF) ∧ ∀ o ∈ b, o.WF

def LumaW.WF : Option (Int × Int) → Prop
  | none => True
  | some (w, o) => SeRange w ∧ SeRange o

def ChromaW.WF (cw : List (Int × Int)) : Prop :=
  cw = [] ∨ (∃ a b, cw = [a, b] ∧ SeRange a.1 ∧ SeRange a.2 ∧ SeRange b.1 ∧ SeRange b.2)

def PwtWF (fam : Family) (pps : Pps.Pps) (sps : Sps.Sps) (nra : Option NumRefIdxActive) (t : PredWeightTable) : Prop :=
  fam ≠ .B ∧ Ue t.lumaLog2WeightDenom ∧
  (if isChroma sps then ∃ v, t.chromaLog2WeightDenom = some v ∧ Ue v else t.chromaLog2WeightDenom = none) ∧
  t.lumaWeights.length = effectiveL0 pps nra + 1 ∧ (∀ l ∈ t.lumaWeights, LumaW.WF l) ∧
  (if isChroma sps then t.chromaWeights.length = t.lumaWeights.length ∧ ∀ c ∈ t.chromaWeights, ChromaW.WF c
   else t.chromaWeights = [])

def Mmco.WF : Mmco → Prop
  | .shortTermUnused d => Ue d
  | .longTermUnused n => Ue n
  | .shortTermToLongTerm d i => Ue d ∧ Ue i
  | .maxLongTermIdx m => Ue m
  | .allUnused => True
  | .currentToLongTerm i => Ue i

def DecRefPicMarking.WF (hdr : NalHdr) : DecRefPicMarking → Prop
  | .idr _ _ => hdr.nalUnitType = 5
  | .slidingWindow => hdr.nalUnitType ≠ 5
  | .adaptive ops => hdr.nalUnitType ≠ 5 ∧ ∀ o ∈ ops, o.WF

def PocWF (sps : Sps.Sps) (pps : Pps.Pps) (h : SliceHeader) : Prop :=
  let bottomCoded := pps.bottomFieldPicOrderInFramePresentFlag && h.fieldPic == .frame
  match sps.picOrderCnt with
  | .typeZero l =>
    if bottomCoded then ∃ lsb d, h.picOrderCntLsb = some (.fieldsAbsolute lsb d) ∧ lsb < 2^(l+4) ∧ SeRange d
    else ∃ lsb, h.picOrderCntLsb = some (.frame lsb) ∧ lsb < 2^(l+4)
  | .typeOne az _ _ _ =>
    if az then h.picOrderCntLsb = some (.fieldsDelta 0 0)
    else if bottomCoded then ∃ d0 d1, h.picOrderCntLsb = some (.fieldsDelta d0 d1) ∧ SeRange d0 ∧ SeRange d1
    else ∃ d0, h.picOrderCntLsb = some (.fieldsDelta d0 0) ∧ SeRange d0
  | .typeTwo => h.picOrderCntLsb = none

def NraWF (fam : Family) : Option NumRefIdxActive → Prop
  | none => True
  | some (.P l0) => (fam = .P ∨ fam = .SP) ∧ l0 ≤ 31
  | some (.B l0 l1) => fam = .B ∧ l0 ≤ 31 ∧ l1 ≤ 31

/-- slice_qs_delta / SliceQS relation of 7.4.3 -/
def SwitchQsWF (fam : Family) (pps : Pps.Pps) (h : SliceHeader) (x : Extra) : Prop :=
  if fam = .SP ∨ fam = .SI then
    (if fam = .SP then ∃ b, h.spForSwitchFlag = some b else h.spForSwitchFlag = none) ∧
    SeRange x.sliceQsDelta ∧ 0 ≤ 26 + pps.picInitQsMinus26 + x.sliceQsDelta ∧
    26 + pps.picInitQsMinus26 + x.sliceQsDelta ≤ 51 ∧
    h.sliceQs = some (26 + pps.picInitQsMinus26 + x.sliceQsDelta).toNat
  else h.spForSwitchFlag = none ∧ h.sliceQs = none

def DeblockWF (pps : Pps.Pps) (h : SliceHeader) (x : Extra) : Prop :=
  if pps.deblockingFilterControlPresentFlag then
    h.disableDeblockingFilterIdc ≤ 6 ∧
    (h.disableDeblockingFilterIdc ≠ 1 → -6 ≤ x.alpha ∧ x.alpha ≤ 6 ∧ SeRange x.beta)
  else h.disableDeblockingFilterIdc = 0

/-- the standard's presence condition for every element of a slice header, w.r.t. its NAL header and active parameter
sets, and the ranges that the parser checks; an element that it stores as read (`first_mb_in_slice`, `idr_pic_id`,
`redundant_pic_cnt`, `cabac_init_idc`, the prediction weights, the marking operands) is bounded by what its descriptor
can carry -/
structure SliceWF (sps : Sps.Sps) (pps : Pps.Pps) (hdr : NalHdr) (h : SliceHeader) (x : Extra) : Prop where
  firstMb : Ue h.firstMbInSlice
  sliceType : h.sliceTypeId ≤ 9
  ppsId : pps.ppsId ≤ 255
  nalType : hdr.nalUnitType ≠ 20 ∧ hdr.nalUnitType ≠ 21
  colourPlane : if sps.chromaInfo.separateColourPlaneFlag then ∃ v, h.colourPlane = some v ∧ v ≤ 2 else h.colourPlane = none
  frameNum : h.frameNum < 2 ^ (sps.log2MaxFrameNumMinus4 + 4)
  fieldPic : sps.frameMbsFlags = .frames → h.fieldPic = .frame
  idr : if hdr.nalUnitType = 5 then ∃ v, h.idrPicId = some v ∧ Ue v else h.idrPicId = none
  poc : PocWF sps pps h
  redundant : if pps.redundantPicCntPresentFlag then ∃ v, h.redundantPicCnt = some v ∧ Ue v else h.redundantPicCnt = none
  direct : if familyOf h.sliceTypeId = .B then ∃ b, h.directSpatialMvPredFlag = some b else h.directSpatialMvPredFlag = none
  nra : NraWF (familyOf h.sliceTypeId) h.numRefIdxActive
  mods : ModsWF (familyOf h.sliceTypeId) h.refPicListModification
  pwt : if pwtPresent (familyOf h.sliceTypeId) pps then
          ∃ t, h.predWeightTable = some t ∧ PwtWF (familyOf h.sliceTypeId) pps sps h.numRefIdxActive t
        else h.predWeightTable = none
  marking : if hdr.nalRefIdc = 0 then h.decRefPicMarking = none else ∃ m, h.decRefPicMarking = some m ∧ m.WF hdr
  cabac : if pps.entropyCodingModeFlag ∧ familyOf h.sliceTypeId ≠ .I ∧ familyOf h.sliceTypeId ≠ .SI
          then ∃ v, h.cabacInitIdc = some v ∧ Ue v else h.cabacInitIdc = none
  qp : SeRange h.sliceQpDelta ∧ h.sliceQpDelta ≤ 51
  qs : SwitchQsWF (familyOf h.sliceTypeId) pps h x
  deblock : DeblockWF pps h x

/-- `encSliceHeader`, except that the coded pic_parameter_set_id is the given `pid` (the key under which the
context holds the PPS) and each (empty) ref_pic_list_modification list may use either of its two codings -/
def encSliceHeaderAlt (sps : Sps.Sps) (pps : Pps.Pps) (hdr : NalHdr) (h : SliceHeader) (x : Extra)
    (pid : Nat) (alt : ModAlt) : List Bool :=
  let fam := familyOf h.sliceTypeId
  encUe h.firstMbInSlice ++ encUe h.sliceTypeId ++ encUe pid ++
  encColourPlane sps h ++ encBits (sps.log2MaxFrameNumMinus4 + 4) h.frameNum ++ encFieldPic sps h ++
  encIdrPicId hdr h ++ encPoc sps pps h ++ encRedundant pps h ++ encDirect fam h ++
  encNumRefIdxActive fam h ++ encRefPicListModsAlt alt h.refPicListModification ++ encPwtOpt fam pps sps h ++
  encMarkingOpt hdr h ++ encCabac fam pps h ++ encSe h.sliceQpDelta ++ encSwitchQs fam h x ++
  encDeblock pps h x

end Slice
