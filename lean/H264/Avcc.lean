/-! C09: `AvcDecoderConfigurationRecord` — validation once, check-free accessors afterwards.
Every slice index of the Rust is a bounds-checked `idx` here, so "cannot panic" is a theorem. -/
namespace Avcc

inductive Res (α : Type)
  | ok (a : α)
  | notEnoughData (expected actual : Nat)
  | unsupportedVersion (v : Nat)
  | paramSetErr (tag : String)
  | panic (tag : String)
deriving Repr

def Res.isPanic {α} : Res α → Bool | .panic _ => true | _ => false

def idx (d : List UInt8) (i : Nat) : Res Nat :=
  match d[i]? with
  | some b => .ok b.toNat
  | none => .panic "index out of bounds"

@[inline] def Res.bind {α β} (r : Res α) (f : α → Res β) : Res β :=
  match r with
  | .ok a => f a
  | .notEnoughData e a => .notEnoughData e a
  | .unsupportedVersion v => .unsupportedVersion v
  | .paramSetErr t => .paramSetErr t
  | .panic t => .panic t

instance : Monad Res where
  pure := Res.ok
  bind := Res.bind

def ck (d : List UInt8) (len : Nat) : Res Unit :=
  if d.length < len then .notEnoughData len d.length else .ok ()

/-- walk `n` length-prefixed entries starting at `pos`; returns the end position -/
def walk (d : List UInt8) : Nat → Nat → Res Nat
  | 0, pos => .ok pos
  | n+1, pos => do
    ck d (pos + 2)
    let hi ← idx d pos
    let lo ← idx d (pos + 1)
    let len := hi * 256 + lo
    ck d (pos + 2 + len)
    walk d n (pos + 2 + len)

def numSps (d : List UInt8) : Res Nat := do let b ← idx d 5; pure (b % 32)

def spsEnd (d : List UInt8) : Res Nat := do
  let n ← numSps d
  walk d n 6

/-- `TryFrom<&[u8]>` -/
def tryFrom (d : List UInt8) : Res Unit := do
  ck d 6
  let v ← idx d 0
  if v ≠ 1 then .unsupportedVersion v else do
  let len ← spsEnd d
  ck d (len + 1)
  let numPps ← idx d len
  let _ ← walk d numPps (len + 1)
  pure ()

/-- `ParamSetIter::next` (after the repair: a zero-length entry is an error, not an index) repeated `n` times
from `pos`; yields the NAL byte strings; `wantType` is the expected `nal_unit_type` -/
def iter (d : List UInt8) (wantType : Nat) : Nat → Nat → Res (List (List UInt8))
  | 0, _ => .ok []
  | n+1, pos =>
    if pos ≥ d.length then .ok [] else do        -- `self.0.is_empty()` ⇒ None
    let hi ← idx d pos
    let lo ← idx d (pos + 1)
    let len := hi * 256 + lo
    if len = 0 then .paramSetErr "Empty" else do
    let h ← idx d (pos + 2)
    if h ≥ 128 then .paramSetErr "ForbiddenZeroBit" else
    if h % 32 ≠ wantType then .paramSetErr "IncorrectNalType" else
    if pos + 2 + len > d.length then .panic "split_at out of bounds" else do
    let rest ← iter d wantType n (pos + 2 + len)
    pure (((d.drop (pos + 2)).take len) :: rest)

def spsList (d : List UInt8) : Res (List (List UInt8)) := do
  let n ← numSps d
  iter d 7 n 6

def ppsList (d : List UInt8) : Res (List (List UInt8)) := do
  let off ← spsEnd d            -- `.unwrap()` in the Rust: an error here would be a panic
  let n ← idx d off
  iter d 8 n (off + 1)

/-- one step of `ParamSetIter::next` at `pos` (which is `< d.length`): the NAL and the next position -/
def entry (d : List UInt8) (wantType : Nat) (pos : Nat) : Res (List UInt8 × Nat) := do
  let hi ← idx d pos
  let lo ← idx d (pos + 1)
  let len := hi * 256 + lo
  if len = 0 then .paramSetErr "Empty" else do
  let h ← idx d (pos + 2)
  if h ≥ 128 then .paramSetErr "ForbiddenZeroBit" else
  if h % 32 ≠ wantType then .paramSetErr "IncorrectNalType" else
  if pos + 2 + len > d.length then .panic "split_at out of bounds" else
  pure ((d.drop (pos + 2)).take len, pos + 2 + len)

/-! ### the monad -/

theorem Res.bind_ok {α β} {r : Res α} {f : α → Res β} {b : β} (h : (r >>= f) = .ok b) :
    ∃ a, r = .ok a ∧ f a = .ok b := by
  cases r with
  | ok a => exact ⟨a, rfl, h⟩
  | _ => cases h

theorem Res.bind_noPanic {α β} {r : Res α} {f : α → Res β} (hr : r.isPanic = false)
    (hf : ∀ a, r = .ok a → (f a).isPanic = false) : (r >>= f).isPanic = false := by
  cases r with
  | ok a => exact hf a rfl
  | _ => exact hr

theorem Res.bind_assoc {α β γ} (x : Res α) (f : α → Res β) (g : β → Res γ) :
    x >>= f >>= g = x >>= fun a => f a >>= g := by cases x <;> rfl

theorem Res.pure_bind {α β} (a : α) (f : α → Res β) : pure a >>= f = f a := rfl

theorem Res.ite_bind {α β} (c : Prop) [Decidable c] (a b : Res α) (f : α → Res β) :
    (if c then a else b) >>= f = if c then a >>= f else b >>= f := by split <;> rfl

theorem Res.paramSetErr_bind {α β} (t : String) (f : α → Res β) : (Res.paramSetErr t >>= f) = .paramSetErr t := rfl

theorem Res.panic_bind {α β} (t : String) (f : α → Res β) : (Res.panic t >>= f) = .panic t := rfl

/-! ### `idx`, `ck` -/

theorem idx_ok (d : List UInt8) (i : Nat) (h : i < d.length) : ∃ b, idx d i = .ok b := by
  unfold idx
  rw [List.getElem?_eq_getElem h]
  exact ⟨_, rfl⟩

theorem idx_lt {d : List UInt8} {i b : Nat} (h : idx d i = .ok b) : i < d.length := by
  unfold idx at h
  cases hd : d[i]? with
  | none => rw [hd] at h; cases h
  | some x => exact (List.getElem?_eq_some_iff.mp hd).1

theorem idx_noPanic {d : List UInt8} {i : Nat} (h : i < d.length) : (idx d i).isPanic = false := by
  obtain ⟨b, hb⟩ := idx_ok d i h; rw [hb]; rfl

theorem idx_drop (d : List UInt8) (pos i : Nat) : idx (d.drop pos) i = idx d (pos + i) := by
  simp [idx, List.getElem?_drop]

theorem idx_mono {d : List UInt8} {i b : Nat} (t : List UInt8) (h : idx d i = .ok b) : idx (d ++ t) i = .ok b := by
  rw [← h]; unfold idx; rw [List.getElem?_append_left (idx_lt h)]

theorem ck_ok_iff (d : List UInt8) (len : Nat) : ck d len = .ok () ↔ len ≤ d.length := by
  unfold ck; split <;> simp <;> omega

theorem ck_noPanic (d : List UInt8) (n : Nat) : (ck d n).isPanic = false := by
  unfold ck; split <;> rfl

/-! ### `walk` -/

theorem walk_succ_ok_iff {d : List UInt8} {n pos e : Nat} : walk d (n+1) pos = .ok e ↔
    ∃ hi lo, idx d pos = .ok hi ∧ idx d (pos+1) = .ok lo ∧ pos + 2 + (hi * 256 + lo) ≤ d.length ∧
      walk d n (pos + 2 + (hi * 256 + lo)) = .ok e := by
  constructor
  · intro h
    obtain ⟨_, _, h⟩ := Res.bind_ok h
    obtain ⟨hi, hhi, h⟩ := Res.bind_ok h
    obtain ⟨lo, hlo, h⟩ := Res.bind_ok h
    obtain ⟨_, hck, h⟩ := Res.bind_ok h
    exact ⟨hi, lo, hhi, hlo, (ck_ok_iff _ _).mp hck, h⟩
  · rintro ⟨hi, lo, hhi, hlo, hle, h⟩
    have h2 : ck d (pos + 2) = .ok () := (ck_ok_iff _ _).mpr (by omega)
    simp only [walk, bind, Res.bind, h2, hhi, hlo, (ck_ok_iff _ _).mpr hle, h]

/-- validation of `n` entries from `pos` succeeded up to position `e` -/
def Walked (d : List UInt8) : Nat → Nat → Nat → Prop
  | 0, pos, e => e = pos ∧ pos ≤ d.length
  | n+1, pos, e => pos + 2 ≤ d.length ∧
      ∃ hi lo, idx d pos = .ok hi ∧ idx d (pos+1) = .ok lo ∧ pos + 2 + (hi * 256 + lo) ≤ d.length ∧
        Walked d n (pos + 2 + (hi * 256 + lo)) e

theorem walk_ok (d : List UInt8) (n pos e : Nat) (hp : pos ≤ d.length) (h : walk d n pos = .ok e) :
    Walked d n pos e := by
  induction n generalizing pos with
  | zero => cases h; exact ⟨rfl, hp⟩
  | succ n ih =>
    obtain ⟨hi, lo, hhi, hlo, hle, h⟩ := walk_succ_ok_iff.mp h
    exact ⟨by omega, hi, lo, hhi, hlo, hle, ih _ hle h⟩

theorem walk_le {d : List UInt8} {n pos e : Nat} (hp : pos ≤ d.length) (h : walk d n pos = .ok e) : e ≤ d.length := by
  induction n generalizing pos with
  | zero => cases h; exact hp
  | succ n ih => obtain ⟨_, _, _, _, hle, h⟩ := walk_succ_ok_iff.mp h; exact ih hle h

theorem walk_mono {d : List UInt8} {n pos e : Nat} (t : List UInt8) (h : walk d n pos = .ok e) :
    walk (d ++ t) n pos = .ok e := by
  induction n generalizing pos with
  | zero => exact h
  | succ n ih =>
    obtain ⟨hi, lo, hhi, hlo, hle, h⟩ := walk_succ_ok_iff.mp h
    exact walk_succ_ok_iff.mpr ⟨hi, lo, idx_mono t hhi, idx_mono t hlo, by simp; omega, ih h⟩

theorem walk_noPanic (d : List UInt8) (n pos : Nat) : (walk d n pos).isPanic = false := by
  induction n generalizing pos with
  | zero => rfl
  | succ n ih =>
    refine Res.bind_noPanic (ck_noPanic _ _) fun _ hck => ?_
    have := (ck_ok_iff _ _).mp hck
    refine Res.bind_noPanic (idx_noPanic (by omega)) fun hi _ => ?_
    refine Res.bind_noPanic (idx_noPanic (by omega)) fun lo _ => ?_
    exact Res.bind_noPanic (ck_noPanic _ _) fun _ _ => ih _

/-! ### `entry`, `iter` -/

/-- `iter` is `entry` repeated -/
theorem iter_succ (d : List UInt8) (w n pos : Nat) :
    iter d w (n+1) pos = if pos ≥ d.length then .ok [] else
      entry d w pos >>= fun x => iter d w n x.2 >>= fun rest => pure (x.1 :: rest) := by
  conv => lhs; rw [iter]
  simp only [entry, Res.bind_assoc, Res.ite_bind, Res.pure_bind, Res.paramSetErr_bind, Res.panic_bind]

/-- one iterator step on a validated region: an entry (and the rest of the region is still validated) or a
parameter-set error — never a panic -/
theorem entry_walked (d : List UInt8) (w n pos e : Nat) (h : Walked d (n+1) pos e) :
    (∃ nal next, entry d w pos = .ok (nal, next) ∧ Walked d n next e) ∨ (∃ t, entry d w pos = .paramSetErr t) := by
  obtain ⟨h2, hi, lo, hhi, hlo, h3, hw⟩ := h
  simp only [entry, bind, Res.bind, hhi, hlo]
  by_cases hz : hi * 256 + lo = 0
  · exact .inr ⟨_, by rw [if_pos hz]⟩
  · obtain ⟨hb, hhb⟩ := idx_ok d (pos + 2) (by omega)
    simp only [if_neg hz, hhb]
    by_cases h128 : hb ≥ 128
    · exact .inr ⟨_, by rw [if_pos h128]⟩
    · by_cases hty : hb % 32 ≠ w
      · exact .inr ⟨_, by rw [if_neg h128, if_pos hty]⟩
      · exact .inl ⟨_, _, by rw [if_neg h128, if_neg hty, if_neg (by omega)]; rfl, hw⟩

/-- **C09 (no panic)**: on a validated region the iterator never indexes out of bounds, whatever the NAL bytes,
lengths (zero included) and header types are, and however many items are requested -/
theorem iter_noPanic (d : List UInt8) (wantType : Nat) (n pos e : Nat) (h : Walked d n pos e) :
    ∀ k, k ≤ n → (iter d wantType k pos).isPanic = false := by
  induction n generalizing pos with
  | zero => intro k hk; rw [Nat.le_zero.mp hk]; rfl
  | succ n ih =>
    intro k hk
    cases k with
    | zero => rfl
    | succ k =>
      rw [iter_succ]
      split
      · rfl
      · rcases entry_walked d wantType n pos e h with ⟨nal, next, hent, hw⟩ | ⟨t, hent⟩
        · rw [hent]; exact Res.bind_noPanic (r := iter d wantType k next) (ih _ hw k (by omega)) fun _ _ => rfl
        · rw [hent]; rfl

/-! ### `tryFrom` -/

/-- what `try_from` has checked when it accepts `d`; `e` is the position behind the last declared parameter set -/
structure Accepted (d : List UInt8) (n len np e : Nat) : Prop where
  six : 6 ≤ d.length
  version : idx d 0 = .ok 1
  nSps : numSps d = .ok n
  sps : walk d n 6 = .ok len
  more : len + 1 ≤ d.length
  nPps : idx d len = .ok np
  pps : walk d np (len + 1) = .ok e

theorem tryFrom_ok_iff (d : List UInt8) : tryFrom d = .ok () ↔ ∃ n len np e, Accepted d n len np e := by
  constructor
  · intro h
    obtain ⟨_, hck, h⟩ := Res.bind_ok h
    obtain ⟨v, hv, h⟩ := Res.bind_ok h
    split at h
    · cases h
    · rename_i hv1
      obtain ⟨len, hend, h⟩ := Res.bind_ok h
      obtain ⟨n, hn, hw⟩ := Res.bind_ok hend
      obtain ⟨_, hck2, h⟩ := Res.bind_ok h
      obtain ⟨np, hnp, h⟩ := Res.bind_ok h
      obtain ⟨e, hw2, _⟩ := Res.bind_ok h
      obtain rfl : v = 1 := by omega
      exact ⟨n, len, np, e, (ck_ok_iff _ _).mp hck, hv, hn, hw, (ck_ok_iff _ _).mp hck2, hnp, hw2⟩
  · rintro ⟨n, len, np, e, h⟩
    simp [tryFrom, spsEnd, bind, Res.bind, (ck_ok_iff _ _).mpr h.six, h.version, h.nSps, h.sps,
      (ck_ok_iff _ _).mpr h.more, h.nPps, h.pps, pure]

namespace Accepted
variable {d : List UInt8} {n len np e : Nat} (a : Accepted d n len np e)
include a

theorem spsEnd : spsEnd d = .ok len := by simp only [Avcc.spsEnd, a.nSps, a.sps, bind, Res.bind]

theorem walkedSps : Walked d n 6 len := walk_ok d n 6 len a.six a.sps

theorem walkedPps : Walked d np (len + 1) e := walk_ok d np (len + 1) e a.more a.pps

theorem end_le : e ≤ d.length := walk_le a.more a.pps

theorem mono (t : List UInt8) : Accepted (d ++ t) n len np e where
  six := by have := a.six; simp; omega
  version := idx_mono t a.version
  nSps := by
    obtain ⟨b, hb, h⟩ := Res.bind_ok a.nSps
    simp only [numSps, bind, Res.bind, idx_mono t hb]; exact h
  sps := walk_mono t a.sps
  more := by have := a.more; simp; omega
  nPps := idx_mono t a.nPps
  pps := walk_mono t a.pps

omit a in
theorem unique {n' len' np' e' : Nat} (a : Accepted d n len np e) (a' : Accepted d n' len' np' e') : e = e' := by
  cases a.nSps.symm.trans a'.nSps
  cases a.sps.symm.trans a'.sps
  cases a.nPps.symm.trans a'.nPps
  cases a.pps.symm.trans a'.pps
  rfl

/-- no proper prefix of the declared part of an accepted record is accepted -/
theorem truncated_refused {k : Nat} (hk : k < e) : tryFrom (d.take k) ≠ .ok () := by
  intro h
  obtain ⟨_, _, _, e', a'⟩ := (tryFrom_ok_iff _).mp h
  have hle := a'.end_le
  have := a'.mono (d.drop k)
  rw [List.take_append_drop] at this
  cases this.unique a
  rw [List.length_take] at hle; omega

end Accepted

/-- **C09 (no panic after validation)**: once `try_from` has accepted *any* bytes, neither iterator can index
out of bounds, however many items are pulled -/
theorem validated_noPanic (d : List UInt8) (h : tryFrom d = .ok ()) :
    (spsList d).isPanic = false ∧ (ppsList d).isPanic = false := by
  obtain ⟨n, len, np, e, a⟩ := (tryFrom_ok_iff d).mp h
  constructor
  · simp only [spsList, bind, Res.bind, a.nSps]
    exact iter_noPanic d 7 n 6 len a.walkedSps n (Nat.le_refl _)
  · simp only [ppsList, bind, Res.bind, a.spsEnd, a.nPps]
    exact iter_noPanic d 8 np (len + 1) e a.walkedPps np (Nat.le_refl _)

#print axioms validated_noPanic

/-- construction never panics, on any bytes: every index is preceded by its length check -/
theorem tryFrom_noPanic (d : List UInt8) : (tryFrom d).isPanic = false := by
  refine Res.bind_noPanic (ck_noPanic _ _) fun _ hck => ?_
  have h6 := (ck_ok_iff _ _).mp hck
  refine Res.bind_noPanic (idx_noPanic (by omega)) fun v _ => ?_
  split
  · rfl
  · refine Res.bind_noPanic ?_ fun len _ => ?_
    · exact Res.bind_noPanic (Res.bind_noPanic (idx_noPanic (by omega)) fun _ _ => rfl) fun n _ => walk_noPanic _ _ _
    · refine Res.bind_noPanic (ck_noPanic _ _) fun _ hck2 => ?_
      have := (ck_ok_iff _ _).mp hck2
      refine Res.bind_noPanic (idx_noPanic (by omega)) fun np _ => ?_
      exact Res.bind_noPanic (walk_noPanic _ _ _) fun _ _ => rfl

end Avcc
