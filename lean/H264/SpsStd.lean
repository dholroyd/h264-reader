import H264.Sps
/-! The standard's SPS syntax (7.3.2.1.1, 7.3.2.1.1.1, E.1.1, E.1.2) as an encoder, and its value ranges -/
namespace Sps
open Bits

/-! ### scaling lists: syntax level = coded delta_scale values -/

/-- per list: `none` = seq_scaling_list_present_flag 0, `some ds` = the coded delta_scale sequence -/
abbrev ScalingSyntax := List (Option (List Int))

/-- 7.3.2.1.1.1 scaling_list(): the process that derives the list from the coded deltas.
Returns `none` when `ds` is not exactly the sequence of deltas the process consumes. -/
def specFill : (remaining j last next : Nat) → (ud : Bool) → (ds : List Int) → Option (List Nat × Bool)
  | 0, _, _, _, ud, ds => if ds = [] then some ([], ud) else none
  | n+1, j, last, next, ud, ds =>
    if next ≠ 0 then
      match ds with
      | [] => none
      | d :: ds' =>
        let next' := ((last : Int) + d + 256).toNat % 256
        let nv := if next' = 0 then last else next'
        (specFill n (j+1) nv next' (j == 0 && next' == 0) ds').map fun r => (nv :: r.1, r.2)
    else (specFill n (j+1) last next ud ds).map fun r => (last :: r.1, r.2)

def specScalingList (size : Nat) : Option (List Int) → Option ScalingList
  | none => some .notPresent
  | some ds => (specFill size 0 8 8 false ds).map fun r => if r.2 then .useDefault else .list r.1

def encScalingList : Option (List Int) → List Bool
  | none => encBool false
  | some ds => encBool true ++ (ds.map encSe).flatten

def deltasOk : Option (List Int) → Prop
  | none => True
  | some ds => ∀ d ∈ ds, -128 ≤ d ∧ d ≤ 127

/-- the standard's derivation of the whole matrix from the coded lists (first `size4` lists are 4x4) -/
def specLists (size4 : Nat) : (i : Nat) → ScalingSyntax → Option (List ScalingList × List ScalingList)
  | _, [] => some ([], [])
  | i, sl :: rest =>
    if i < size4 then
      (specScalingList 16 sl).bind fun r => (specLists size4 (i+1) rest).map fun p => (r :: p.1, p.2)
    else
      (specScalingList 64 sl).bind fun r => (specLists size4 (i+1) rest).map fun p => (p.1, r :: p.2)

/-! ### encoders, in the order of the syntax tables -/

def encCpbSpec (c : CpbSpec) : List Bool :=
  encUe c.bitRateValueMinus1 ++ encUe c.cpbSizeValueMinus1 ++ encBool c.cbrFlag

def encHrd : Option Hrd → List Bool
  | none => encBool false
  | some h => encBool true ++
      encUe (h.cpbSpecs.length - 1) ++ encBits 4 h.bitRateScale ++ encBits 4 h.cpbSizeScale ++
      (h.cpbSpecs.map encCpbSpec).flatten ++
      encBits 5 h.initialCpbRemovalDelayLengthMinus1 ++ encBits 5 h.cpbRemovalDelayLengthMinus1 ++
      encBits 5 h.dpbOutputDelayLengthMinus1 ++ encBits 5 h.timeOffsetLength

def encAspectRatioInfo : Option AspectRatioInfo → List Bool
  | none => encBool false
  | some (.idc v) => encBool true ++ encBits 8 v
  | some (.extended w h) => encBool true ++ encBits 8 255 ++ encBits 16 w ++ encBits 16 h

def encOverscan : OverscanAppropriate → List Bool
  | .unspecified => encBool false
  | .appropriate => encBool true ++ encBool true
  | .inappropriate => encBool true ++ encBool false

def encColourDescription : Option ColourDescription → List Bool
  | none => encBool false
  | some c => encBool true ++ encBits 8 c.colourPrimaries ++ encBits 8 c.transferCharacteristics ++
      encBits 8 c.matrixCoefficients

def encVideoSignalType : Option VideoSignalType → List Bool
  | none => encBool false
  | some v => encBool true ++ encBits 3 v.videoFormat ++ encBool v.videoFullRangeFlag ++
      encColourDescription v.colourDescription

def encChromaLocInfo : Option ChromaLocInfo → List Bool
  | none => encBool false
  | some c => encBool true ++ encUe c.top ++ encUe c.bottom

def encTimingInfo : Option TimingInfo → List Bool
  | none => encBool false
  | some t => encBool true ++ encBits 32 t.numUnitsInTick ++ encBits 32 t.timeScale ++ encBool t.fixedFrameRateFlag

def encBitstreamRestrictions : Option BitstreamRestrictions → List Bool
  | none => encBool false
  | some b => encBool true ++ encBool b.motionVectorsOverPicBoundariesFlag ++
      encUe b.maxBytesPerPicDenom ++ encUe b.maxBitsPerMbDenom ++
      encUe b.log2MaxMvLengthHorizontal ++ encUe b.log2MaxMvLengthVertical ++
      encUe b.maxNumReorderFrames ++ encUe b.maxDecFrameBuffering

def encOptBool : Option Bool → List Bool
  | some b => encBool b
  | none => []

def encVui : Option Vui → List Bool
  | none => encBool false
  | some v => encBool true ++ encAspectRatioInfo v.aspectRatioInfo ++ encOverscan v.overscanAppropriate ++
      encVideoSignalType v.videoSignalType ++ encChromaLocInfo v.chromaLocInfo ++ encTimingInfo v.timingInfo ++
      encHrd v.nalHrd ++ encHrd v.vclHrd ++
      encOptBool v.lowDelayHrdFlag ++
      encBool v.picStructPresentFlag ++ encBitstreamRestrictions v.bitstreamRestrictions

def encFrameCropping : Option FrameCropping → List Bool
  | none => encBool false
  | some c => encBool true ++ encUe c.left ++ encUe c.right ++ encUe c.top ++ encUe c.bottom

def encFrameMbsFlags : FrameMbsFlags → List Bool
  | .frames => encBool true
  | .fields m => encBool false ++ encBool m

def encPicOrderCnt : PicOrderCntType → List Bool
  | .typeZero v => encUe 0 ++ encUe v
  | .typeOne f a b offs => encUe 1 ++ encBool f ++ encSe a ++ encSe b ++ encUe offs.length ++ (offs.map encSe).flatten
  | .typeTwo => encUe 2

def chromaFormatIdc : ChromaFormat → Nat
  | .monochrome => 0 | .yuv420 => 1 | .yuv422 => 2 | .yuv444 => 3 | .invalid v => v

/-- 7.3.2.1.1 (edition 2016 and later): the profile_idc values for which the chroma / bit-depth / scaling
syntax is present. Written from the standard, *not* from the code. -/
def stdHasChromaInfo (profileIdc : Nat) : Bool :=
  [100, 110, 122, 244, 44, 83, 86, 118, 128, 138, 139, 134, 135].contains profileIdc

/-- the profile_idc values on which the library's list deviates (MVC / 3D profiles of Annex H, I, J) -/
def mvcOnlyProfile (profileIdc : Nat) : Bool := [118, 128, 138, 139, 134, 135].contains profileIdc

theorem hasChromaInfo_std (p : Nat) (h : mvcOnlyProfile p = false) : hasChromaInfo p = stdHasChromaInfo p := by
  unfold hasChromaInfo stdHasChromaInfo mvcOnlyProfile at *
  simp only [List.contains_cons, List.contains_nil, Bool.or_false, Bool.or_eq_false_iff, beq_eq_false_iff_ne, ne_eq] at h
  obtain ⟨h1, h2, h3, h4, h5, h6⟩ := h
  simp [h1, h2, h3, h4, h5, h6, Bool.or_assoc]

def encChromaInfo (profileIdc : Nat) (c : ChromaInfo) (sm : Option ScalingSyntax) : List Bool :=
  if stdHasChromaInfo profileIdc then
    encUe (chromaFormatIdc c.chromaFormat) ++
    (if chromaFormatIdc c.chromaFormat = 3 then encBool c.separateColourPlaneFlag else []) ++
    encUe c.bitDepthLumaMinus8 ++ encUe c.bitDepthChromaMinus8 ++ encBool c.qpprimeYZeroTransformBypassFlag ++
    (match sm with
     | none => encBool false
     | some lists => encBool true ++ (lists.map encScalingList).flatten)
  else []

def encSps (v : Sps) (sm : Option ScalingSyntax) : List Bool :=
  encBits 8 v.profileIdc ++ encBits 8 v.constraintFlags ++ encBits 8 v.levelIdc ++ encUe v.spsId ++
  encChromaInfo v.profileIdc v.chromaInfo sm ++
  encUe v.log2MaxFrameNumMinus4 ++ encPicOrderCnt v.picOrderCnt ++ encUe v.maxNumRefFrames ++
  encBool v.gapsInFrameNumValueAllowedFlag ++ encUe v.picWidthInMbsMinus1 ++ encUe v.picHeightInMapUnitsMinus1 ++
  encFrameMbsFlags v.frameMbsFlags ++ encBool v.direct8x8InferenceFlag ++ encFrameCropping v.frameCropping ++
  encVui v.vui

/-- rbsp_trailing_bits() followed by any number of zero bits (e.g. cabac_zero_words / trailing zero bytes) -/
def trailing (z : Nat) : List Bool := true :: List.replicate z false

/-! ### well-formedness = the value ranges of the standard (as far as the syntax constrains them) -/

def Ue (v : Nat) : Prop := v < 2^32 - 1

def CpbSpec.WF (c : CpbSpec) : Prop := Ue c.bitRateValueMinus1 ∧ Ue c.cpbSizeValueMinus1
def Hrd.WF (h : Hrd) : Prop :=
  h.bitRateScale < 16 ∧ h.cpbSizeScale < 16 ∧ 1 ≤ h.cpbSpecs.length ∧ h.cpbSpecs.length ≤ 32 ∧
  (∀ c ∈ h.cpbSpecs, c.WF) ∧
  h.initialCpbRemovalDelayLengthMinus1 < 32 ∧ h.cpbRemovalDelayLengthMinus1 < 32 ∧
  h.dpbOutputDelayLengthMinus1 < 32 ∧ h.timeOffsetLength < 32
def OptHrdWF : Option Hrd → Prop | none => True | some h => h.WF

def AspectRatioInfo.WF : AspectRatioInfo → Prop
  | .idc v => v < 255
  | .extended w h => w < 2^16 ∧ h < 2^16
def ColourDescription.WF (c : ColourDescription) : Prop :=
  c.colourPrimaries < 256 ∧ c.transferCharacteristics < 256 ∧ c.matrixCoefficients < 256
def VideoSignalType.WF (v : VideoSignalType) : Prop :=
  v.videoFormat < 8 ∧ (match v.colourDescription with | none => True | some c => c.WF)
def BitstreamRestrictions.WF (b : BitstreamRestrictions) (maxNumRefFrames : Nat) : Prop :=
  b.maxBytesPerPicDenom ≤ 16 ∧ b.maxBitsPerMbDenom ≤ 16 ∧ b.log2MaxMvLengthHorizontal ≤ 16 ∧
  b.log2MaxMvLengthVertical ≤ 16 ∧ b.maxNumReorderFrames ≤ b.maxDecFrameBuffering ∧
  maxNumRefFrames ≤ b.maxDecFrameBuffering ∧ Ue b.maxDecFrameBuffering
def Vui.WF (v : Vui) (maxNumRefFrames : Nat) : Prop :=
  (match v.aspectRatioInfo with | none => True | some a => a.WF) ∧
  (match v.videoSignalType with | none => True | some a => a.WF) ∧
  (match v.chromaLocInfo with | none => True | some a => Ue a.top ∧ Ue a.bottom) ∧
  (match v.timingInfo with | none => True | some t => t.numUnitsInTick < 2^32 ∧ t.timeScale < 2^32) ∧
  OptHrdWF v.nalHrd ∧ OptHrdWF v.vclHrd ∧
  (v.lowDelayHrdFlag.isSome = (v.nalHrd.isSome || v.vclHrd.isSome)) ∧
  (match v.bitstreamRestrictions with | none => True | some b => b.WF maxNumRefFrames)

def PicOrderCntType.WF : PicOrderCntType → Prop
  | .typeZero v => v ≤ 12
  | .typeOne _ a b offs => SeRange a ∧ SeRange b ∧ offs.length ≤ 255 ∧ ∀ o ∈ offs, SeRange o
  | .typeTwo => True

/-- relation between the coded scaling syntax and the derived matrix stored in the parsed SPS -/
def MatrixDerives (idc : Nat) : Option ScalingSyntax → Option SeqScalingMatrix → Prop
  | none, m => m = none
  | some ls, m => ls.length = (if idc = 3 then 12 else 8) ∧ (∀ sl ∈ ls, deltasOk sl) ∧
      ∃ x y, specLists 6 0 ls = some (x, y) ∧ m = some ⟨x, y⟩

def ChromaInfo.WF (profileIdc : Nat) (c : ChromaInfo) (sm : Option ScalingSyntax) : Prop :=
  if stdHasChromaInfo profileIdc then
    Ue (chromaFormatIdc c.chromaFormat) ∧ c.chromaFormat = ChromaFormat.ofIdc (chromaFormatIdc c.chromaFormat) ∧
    (chromaFormatIdc c.chromaFormat ≠ 3 → c.separateColourPlaneFlag = false) ∧
    c.bitDepthLumaMinus8 ≤ 6 ∧ c.bitDepthChromaMinus8 ≤ 6 ∧
    MatrixDerives (chromaFormatIdc c.chromaFormat) sm c.scalingMatrix
  else c = {} 

def OptWF {α} (p : α → Prop) : Option α → Prop
  | none => True
  | some a => p a

@[simp] theorem OptWF_none {α} (p : α → Prop) : OptWF p none ↔ True := Iff.rfl
@[simp] theorem OptWF_some {α} (p : α → Prop) (a : α) : OptWF p (some a) ↔ p a := Iff.rfl

/-! ### the same syntax with the presence of the chroma part as a parameter

`readChromaInfo` carries its own list of the profiles with chroma syntax (`hasChromaInfo`), shorter than the
standard's. What the parser decodes is the standard's syntax with that list in place of `stdHasChromaInfo`; so here
are `encChromaInfo`, `ChromaInfo.WF`, `encSps` and `Sps.WF` (which heads `SpsC04`) once more, with `has` for
`stdHasChromaInfo profileIdc`. -/

def encOptScalingLists : Option ScalingSyntax → List Bool
  | none => encBool false
  | some lists => encBool true ++ (lists.map encScalingList).flatten

def encChromaInfoIf (has : Bool) (c : ChromaInfo) (sm : Option ScalingSyntax) : List Bool :=
  if has then
    encUe (chromaFormatIdc c.chromaFormat) ++
    (if chromaFormatIdc c.chromaFormat = 3 then encBool c.separateColourPlaneFlag else []) ++
    encUe c.bitDepthLumaMinus8 ++ encUe c.bitDepthChromaMinus8 ++ encBool c.qpprimeYZeroTransformBypassFlag ++
    encOptScalingLists sm
  else []

def ChromaInfo.WFIf (has : Bool) (c : ChromaInfo) (sm : Option ScalingSyntax) : Prop :=
  if has then
    Ue (chromaFormatIdc c.chromaFormat) ∧ c.chromaFormat = ChromaFormat.ofIdc (chromaFormatIdc c.chromaFormat) ∧
    (chromaFormatIdc c.chromaFormat ≠ 3 → c.separateColourPlaneFlag = false) ∧
    c.bitDepthLumaMinus8 ≤ 6 ∧ c.bitDepthChromaMinus8 ≤ 6 ∧
    MatrixDerives (chromaFormatIdc c.chromaFormat) sm c.scalingMatrix
  else c = {}

def encSpsIf (has : Bool) (v : Sps) (sm : Option ScalingSyntax) : List Bool :=
  encBits 8 v.profileIdc ++ encBits 8 v.constraintFlags ++ encBits 8 v.levelIdc ++ encUe v.spsId ++
  encChromaInfoIf has v.chromaInfo sm ++
  encUe v.log2MaxFrameNumMinus4 ++ encPicOrderCnt v.picOrderCnt ++ encUe v.maxNumRefFrames ++
  encBool v.gapsInFrameNumValueAllowedFlag ++ encUe v.picWidthInMbsMinus1 ++ encUe v.picHeightInMapUnitsMinus1 ++
  encFrameMbsFlags v.frameMbsFlags ++ encBool v.direct8x8InferenceFlag ++ encFrameCropping v.frameCropping ++
  encVui v.vui

def Sps.WFIf (has : Bool) (v : Sps) (sm : Option ScalingSyntax) : Prop :=
  v.profileIdc < 256 ∧ v.constraintFlags < 256 ∧ v.levelIdc < 256 ∧ v.spsId ≤ 31 ∧
  v.chromaInfo.WFIf has sm ∧ v.log2MaxFrameNumMinus4 ≤ 12 ∧ v.picOrderCnt.WF ∧
  Ue v.maxNumRefFrames ∧ Ue v.picWidthInMbsMinus1 ∧ Ue v.picHeightInMapUnitsMinus1 ∧
  OptWF (fun c => Ue c.left ∧ Ue c.right ∧ Ue c.top ∧ Ue c.bottom) v.frameCropping ∧
  OptWF (fun u => u.WF v.maxNumRefFrames) v.vui

theorem ChromaInfo.WF_iff (p : Nat) (c : ChromaInfo) (sm : Option ScalingSyntax) :
    c.WF p sm ↔ c.WFIf (stdHasChromaInfo p) sm := Iff.rfl

theorem encChromaInfo_eq (p : Nat) (c : ChromaInfo) (sm : Option ScalingSyntax) :
    encChromaInfo p c sm = encChromaInfoIf (stdHasChromaInfo p) c sm := by
  cases sm <;> rfl

theorem encSps_eq (v : Sps) (sm : Option ScalingSyntax) : encSps v sm = encSpsIf (stdHasChromaInfo v.profileIdc) v sm := by
  rw [encSps, encSpsIf, encChromaInfo_eq]

/-- non-vacuity: a concrete 4:2:0 High-profile SPS with VUI + HRD meets the hypotheses -/
def sample : Sps :=
  { profileIdc := 100, constraintFlags := 0, levelIdc := 40, spsId := 0,
    chromaInfo := { chromaFormat := .yuv420, bitDepthLumaMinus8 := 2, bitDepthChromaMinus8 := 2 },
    log2MaxFrameNumMinus4 := 4, picOrderCnt := .typeOne true (-3) 5 [1, -1],
    maxNumRefFrames := 4, gapsInFrameNumValueAllowedFlag := false,
    picWidthInMbsMinus1 := 119, picHeightInMapUnitsMinus1 := 33,
    frameMbsFlags := .fields true, direct8x8InferenceFlag := true,
    frameCropping := some ⟨0, 0, 0, 2⟩,
    vui := some { aspectRatioInfo := some (.extended 4 3), overscanAppropriate := .appropriate,
                  videoSignalType := none, chromaLocInfo := none,
                  timingInfo := some ⟨1001, 60000, true⟩,
                  nalHrd := some ⟨1, 2, [⟨100, 200, false⟩], 23, 23, 23, 24⟩, vclHrd := none,
                  lowDelayHrdFlag := some false, picStructPresentFlag := true,
                  bitstreamRestrictions := some ⟨true, 2, 1, 16, 16, 2, 4⟩ } }

end Sps
