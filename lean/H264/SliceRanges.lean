import H264.SliceC06
/-! C16, slice part: the ranges of an accepted slice header, read off `parseSliceHeader_iff` -/
namespace Slice
open Bits

def NraLe : Option NumRefIdxActive → Prop
  | none => True
  | some (.P l0) => l0 ≤ 31
  | some (.B l0 l1) => l0 ≤ 31 ∧ l1 ≤ 31

theorem NraWF.le {fam : Family} {n : Option NumRefIdxActive} (h : NraWF fam n) : NraLe n := by
  rcases n with _ | l0 | ⟨l0, l1⟩
  · trivial
  · exact h.2
  · exact h.2

def PocLt (sps : Sps.Sps) : Option PicOrderCountLsb → Prop
  | some (.frame lsb) => ∀ l, sps.picOrderCnt = .typeZero l → lsb < 2^(l+4)
  | some (.fieldsAbsolute lsb _) => ∀ l, sps.picOrderCnt = .typeZero l → lsb < 2^(l+4)
  | _ => True

theorem PocWF.lt {sps : Sps.Sps} {pps : Pps.Pps} {h : SliceHeader} (w : PocWF sps pps h) :
    PocLt sps h.picOrderCntLsb := by
  unfold PocWF at w
  rcases hp : h.picOrderCntLsb with _ | lsb | ⟨lsb, d⟩ | _
  case none | some.fieldsDelta => trivial
  all_goals
    intro l hl
    simp only [hp, hl] at w
    split at w
  -- the branch of `PocWF` taken and the value agree on the constructor, hence on `lsb`
  · obtain ⟨_, _, e, -⟩ := w; cases e
  · obtain ⟨_, e, hlt⟩ := w; cases e; exact hlt
  · obtain ⟨_, _, e, hlt, -⟩ := w; cases e; exact hlt
  · obtain ⟨_, e, -⟩ := w; cases e

theorem SwitchQsWF.sliceQs_le {fam : Family} {pps : Pps.Pps} {h : SliceHeader} {x : Extra}
    (w : SwitchQsWF fam pps h x) : ∀ q, h.sliceQs = some q → q ≤ 51 := by
  unfold SwitchQsWF at w
  intro q hq
  split at w
  · obtain ⟨-, -, -, h51, e⟩ := w
    rw [e] at hq; cases hq; omega
  · rw [w.2] at hq; cases hq

/-- for any result `r`, with no header at hand to take `readSwitchQs_parses` and `SwitchQsWF.sliceQs_le` at -/
theorem readSwitchQs_le (fam : Family) (pps : Pps.Pps) (s s' : Src) (r : Option Bool × Option Nat)
    (h : readSwitchQs fam pps s = .ok (r, s')) : ∀ q, r.2 = some q → q ≤ 51 := by
  rw [after_start] at h
  simp only [readSwitchQs, ↓after_guard_hyp, after_ite_cases_hyp, parse_hyp,
    (readSpSwitch_codes _).after_bind_hyp] at h
  obtain ⟨-, _, -, d, -, hq, rfl, -⟩ | ⟨-, rfl, -⟩ := h
  · intro q e; cases e; omega
  · nofun

/-- **C16 (slice headers)**: an accepted slice header refers to parameter sets that are the context entries
named by the ids, `frame_num` and the POC lsb are below the declared moduli, reference counts are at most 32
(minus1 ≤ 31) and SliceQS is in 0…51 -/
theorem C16_slice (ctx : Ctx) (hdr : NalHdr) (s s' : Src) (h : SliceHeader) (sid pid : Nat)
    (hok : parseSliceHeader ctx hdr s = .ok ((h, sid, pid), s')) :
    ∃ pps sps, ctx.pps pid = some pps ∧ pps.spsId = sid ∧ ctx.sps sid = some sps ∧
      h.frameNum < 2 ^ (sps.log2MaxFrameNumMinus4 + 4) ∧ PocLt sps h.picOrderCntLsb ∧
      NraLe h.numRefIdxActive ∧ (∀ q, h.sliceQs = some q → q ≤ 51) ∧ h.sliceTypeId ≤ 9 := by
  obtain ⟨pps, sps, x, -, hpps, hsid, hsps, wf, -, -⟩ := (parseSliceHeader_iff ctx hdr s s' h sid pid).1 hok
  exact ⟨pps, sps, hpps, hsid, hsps, wf.frameNum, wf.poc.lt, wf.nra.le, wf.qs.sliceQs_le, wf.sliceType⟩

#print axioms C16_slice
end Slice
