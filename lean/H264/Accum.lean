/-! C08: `NalAccumulator::nal_fragment` under an arbitrary handler policy -/
namespace Accum

inductive Interest | buffer | ignore
deriving DecidableEq, Repr

structure Acc where
  buf : List UInt8
  interest : Interest
deriving DecidableEq, Repr

def init : Acc := ⟨[], .buffer⟩

/-- what the handler is shown: the NAL as head + tail chunks, and `is_complete` -/
structure Invocation where
  head : List UInt8
  tail : List (List UInt8)
  complete : Bool
deriving DecidableEq, Repr

def Invocation.bytes (i : Invocation) : List UInt8 := i.head ++ i.tail.flatten

/-- one fragment delivery; `decide` is the handler's answer if it is invoked -/
def frag (a : Acc) (bufs : List (List UInt8)) (fin : Bool) (decide : Invocation → Interest) :
    Acc × Option Invocation :=
  if a.interest ≠ .ignore then
    let inv? : Option Invocation :=
      if a.buf ≠ [] then some ⟨a.buf, bufs, fin⟩
      else match bufs with
        | [] => none
        | b :: bs => some ⟨b, bs, fin⟩
    match inv? with
    | none => (a, none)                                   -- early `return` (state untouched)
    | some inv =>
      let a1 : Acc := match decide inv with
        | .buffer => if !fin then { a with buf := a.buf ++ bufs.flatten } else a
        | .ignore => { a with interest := .ignore }
      (if fin then init else a1, some inv)
  else (if fin then init else a, none)

/-- a history: fragments, each with the answer the handler would give if invoked -/
structure Step where
  bufs : List (List UInt8)
  fin : Bool
  answer : Interest

def run : Acc → List Step → List Invocation → Acc × List Invocation
  | a, [], tr => (a, tr)
  | a, s :: ss, tr =>
    let r := frag a s.bufs s.fin (fun _ => s.answer)
    run r.1 ss (match r.2 with | some i => tr ++ [i] | none => tr)

/-- ghost state of the specification: bytes of the current NAL delivered so far, and whether it was ignored -/
structure Ghost where
  soFar : List UInt8
  ignored : Bool

def Inv (a : Acc) (g : Ghost) : Prop :=
  (a.interest = .ignore ↔ g.ignored = true) ∧ (g.ignored = false → a.buf = g.soFar)

theorem inv_init : Inv init ⟨[], false⟩ := by simp [Inv, init]

def ghostStep (g : Ghost) (s : Step) (invoked : Bool) : Ghost :=
  if s.fin then ⟨[], false⟩
  else ⟨g.soFar ++ s.bufs.flatten, g.ignored || (invoked && s.answer == .ignore)⟩

/-- the three ways through `nal_fragment`: the NAL is being ignored; the early `return` (nothing buffered and no
slice, so the state is the initial one); the handler is invoked, on the buffered bytes, if any, then the slices -/
theorem frag_cases (a : Acc) (bufs : List (List UInt8)) (fin : Bool) (d : Invocation → Interest) :
    (a.interest = .ignore ∧ frag a bufs fin d = (if fin then init else a, none)) ∨
    (a = init ∧ bufs = [] ∧ frag a bufs fin d = (a, none)) ∨
    ∃ inv, a.interest = .buffer ∧ inv.head :: inv.tail = (if a.buf = [] then bufs else a.buf :: bufs) ∧
      inv.complete = fin ∧
      frag a bufs fin d = (if fin then init else match d inv with
        | .buffer => { a with buf := a.buf ++ bufs.flatten }
        | .ignore => { a with interest := .ignore }, some inv) := by
  obtain ⟨buf, int⟩ := a
  cases int with
  | ignore => exact .inl ⟨rfl, by simp [frag]⟩
  | buffer =>
    by_cases hb : buf = []
    · cases bufs with
      | nil => exact .inr (.inl ⟨by rw [hb, init], rfl, by simp [frag, hb]⟩)
      | cons b bs =>
        exact .inr (.inr ⟨⟨b, bs, fin⟩, rfl, by simp [hb], rfl, by cases fin <;> simp [frag, hb]⟩)
    · exact .inr (.inr ⟨⟨buf, bufs, fin⟩, rfl, by simp [hb], rfl, by cases fin <;> simp [frag, hb]⟩)

theorem frag_chunks_nonempty (a : Acc) (bufs : List (List UInt8)) (fin : Bool) (d : Invocation → Interest)
    (hb : ∀ b ∈ bufs, b ≠ []) (i : Invocation) (h : (frag a bufs fin d).2 = some i) :
    i.head ≠ [] ∧ ∀ t ∈ i.tail, t ≠ [] := by
  rcases frag_cases a bufs fin d with ⟨_, hf⟩ | ⟨_, _, hf⟩ | ⟨inv, _, hch, _, hf⟩ <;> rw [hf] at h <;> cases h
  refine (List.forall_mem_cons (p := (· ≠ []))).mp ?_
  rw [hch]; split
  · exact hb
  · exact List.forall_mem_cons.mpr ⟨‹_›, hb⟩

theorem interest_cases (i : Interest) : i = .buffer ∨ i = .ignore := by cases i <;> simp

/-- **C08 (one step)**: the handler is invoked iff the NAL is not ignored and has at least one byte so far;
it sees exactly all bytes of the current NAL so far; `complete` iff this delivery ends the NAL;
and the state afterwards again satisfies the invariant (reset to `init` at the end of the NAL). -/
theorem frag_spec (a : Acc) (g : Ghost) (s : Step) (h : Inv a g) (hne : ∀ b ∈ s.bufs, b ≠ []) :
    (match (frag a s.bufs s.fin (fun _ => s.answer)).2 with
     | some i => g.ignored = false ∧ i.bytes = g.soFar ++ s.bufs.flatten ∧ i.head ≠ [] ∧ i.complete = s.fin
     | none => g.ignored = true ∨ (g.soFar = [] ∧ s.bufs = [])) ∧
    Inv (frag a s.bufs s.fin (fun _ => s.answer)).1
      (ghostStep g s (frag a s.bufs s.fin (fun _ => s.answer)).2.isSome) ∧
    (s.fin = true → (frag a s.bufs s.fin (fun _ => s.answer)).1 = init) := by
  obtain ⟨h1, h2⟩ := h
  rcases frag_cases a s.bufs s.fin (fun _ => s.answer) with ⟨hi, hf⟩ | ⟨rfl, hb, hf⟩ | ⟨inv, hi, hch, hc, hf⟩ <;>
    rw [hf]
  · have hg : g.ignored = true := h1.mp hi
    cases hfin : s.fin <;> simp [ghostStep, Inv, init, hfin, hg, hi]
  · have hg : g.ignored = false := by simpa [init] using h1
    refine ⟨.inr ⟨(h2 hg).symm, hb⟩, ?_, fun _ => rfl⟩
    cases hfin : s.fin <;> simp [ghostStep, Inv, init, hfin, hg, hb, ← h2 hg]
  · have hg : g.ignored = false := by simpa [hi] using h1
    have hbytes : inv.bytes = a.buf ++ s.bufs.flatten := by
      rw [Invocation.bytes, ← List.flatten_cons, hch]; split
      · next h => rw [h, List.nil_append]
      · rfl
    have hhead := (frag_chunks_nonempty a s.bufs s.fin _ hne inv (by rw [hf])).1
    have hb := h2 hg
    refine ⟨⟨hg, hb ▸ hbytes, hhead, hc⟩, ?_, fun hfin => if_pos hfin⟩
    cases hfin : s.fin <;> cases ha : s.answer <;> simp [Inv, ghostStep, init, hfin, ha, hg, hi, hb]

/-- the specification of a whole history: what each invocation must carry, from the ghost state alone -/
def specRun : Ghost → List Step → List (List UInt8 × Bool)
  | _, [] => []
  | g, s :: ss =>
    let invoked := !g.ignored && !(g.soFar ++ s.bufs.flatten).isEmpty
    (if invoked then [(g.soFar ++ s.bufs.flatten, s.fin)] else []) ++ specRun (ghostStep g s invoked) ss

def obs (tr : List Invocation) : List (List UInt8 × Bool) := tr.map fun i => (i.bytes, i.complete)

/-- **C08**: for every sequence of deliveries (non-empty slices) and every handler policy, each invocation shows
exactly the bytes of the current NAL so far, flagged complete iff that delivery ended it; nothing after `Ignore`;
nothing carried over -/
theorem run_spec (a : Acc) (g : Ghost) (h : Inv a g) (steps : List Step)
    (hne : ∀ s ∈ steps, ∀ b ∈ s.bufs, b ≠ []) (tr : List Invocation) :
    obs (run a steps tr).2 = obs tr ++ specRun g steps ∧ 
    ∃ g', Inv (run a steps tr).1 g' := by
  induction steps generalizing a g tr with
  | nil => exact ⟨by simp [run, specRun], g, h⟩
  | cons s ss ih =>
    obtain ⟨hs, hss⟩ := List.forall_mem_cons.mp hne
    have hf := frag_spec a g s h hs
    simp only [run, specRun]
    generalize frag a s.bufs s.fin (fun _ => s.answer) = x at hf ⊢
    obtain ⟨a', _ | inv⟩ := x <;> dsimp only at hf ⊢ <;> obtain ⟨f1, f2, _⟩ := hf
    · have hinv : (!g.ignored && !(g.soFar ++ s.bufs.flatten).isEmpty) = false := by
        rcases f1 with h1 | ⟨h1, h2⟩
        · simp [h1]
        · simp [h1, h2]
      obtain ⟨i1, i2⟩ := ih _ _ f2 hss tr
      exact ⟨by rw [i1, hinv]; rfl, i2⟩
    · obtain ⟨g0, gb, ghd, gc⟩ := f1
      have hinv : (!g.ignored && !(g.soFar ++ s.bufs.flatten).isEmpty) = true := by
        rw [← gb, Invocation.bytes]; simp [g0, ghd]
      obtain ⟨i1, i2⟩ := ih _ _ f2 hss (tr ++ [inv])
      exact ⟨by rw [i1, hinv]; simp [obs, gb, gc], i2⟩

#print axioms run_spec
end Accum
