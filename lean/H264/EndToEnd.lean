import H264.Framing
import H264.NalSrcProofs
import H264.EscapeNoSC
/-! C12, last link: what a parser reads inside the handler. Each complete invocation of the accumulating handler shows
the NAL as `head :: tail` chunks (the buffered bytes, then the new slices); the RBSP bit source that `rbsp_bits()` gives
over those chunks is the RBSP bit source of the NAL alone in one contiguous buffer — for every NAL of the sequence, in
order, however the stream was pushed. Every model parser is a function of (context, bit source), and the context is
the fold of the earlier results, so "same SPS, PPS, SEI messages and slice headers" follows by `congrArg`. -/
namespace C12
open AnnexB Accum

/-- the bit source a parser gets from `nal.rbsp_bits()` inside the handler -/
def invSrc (i : Invocation) : Bits.Src := NalSrc.srcOfNal (i.head :: i.tail) i.complete

theorem run_chunks_nonempty (a : Acc) (steps : List Step) (hne : ∀ s ∈ steps, ∀ b ∈ s.bufs, b ≠ [])
    (tr : List Invocation) (htr : ∀ i ∈ tr, i.head ≠ [] ∧ ∀ t ∈ i.tail, t ≠ []) :
    ∀ i ∈ (Accum.run a steps tr).2, i.head ≠ [] ∧ ∀ t ∈ i.tail, t ≠ [] := by
  induction steps generalizing a tr with
  | nil => exact htr
  | cons s ss ih =>
    obtain ⟨hs, hss⟩ := List.forall_mem_cons.mp hne
    refine ih _ hss _ fun i hi => ?_
    split at hi
    · next j hr =>
      rcases List.mem_append.mp hi with h | h
      · exact htr i h
      · rw [List.mem_singleton.mp h]
        exact frag_chunks_nonempty a s.bufs s.fin _ hs j hr
    · exact htr i hi

theorem completeOnes_obs (tr : List Invocation) :
    completeOnes (obs tr) = (tr.filter (·.complete)).map Invocation.bytes := by
  rw [completeOnes, obs, List.filter_map, List.map_map]
  rfl

/-- any byte stream, cut anyhow, whose units un-escape without error: anything computed from the chunks of a complete
invocation that (on a valid NAL) depends only on their concatenation is, unit by unit, what it is on that unit of the
segmentation in one contiguous buffer -/
theorem end_to_end_of {β} (f : List (List UInt8) → β)
    (hf : ∀ cs : List (List UInt8), (∀ c ∈ cs, c ≠ []) → (Rbsp.unesc (cs.flatten.drop 1)).2 = true → cs.flatten ≠ [] →
      f cs = f [cs.flatten])
    (chunks : List (List UInt8))
    (hvalid : ∀ u ∈ splitUnits [] (outside chunks.flatten), (Rbsp.unesc (u.drop 1)).2 = true) :
    let calls := (pushAll St.start chunks).2 ++ (AnnexB.reset (pushAll St.start chunks).1).2
    let tr := (Accum.run Accum.init (stepsOf calls) []).2
    (tr.filter (·.complete)).map (fun i => f (i.head :: i.tail)) =
      (splitUnits [] (outside chunks.flatten)).map (fun u => f [u]) := by
  intro calls tr
  have hch := run_chunks_nonempty Accum.init (stepsOf calls) (final_steps_nonempty chunks) []
    fun _ h => (List.not_mem_nil h).elim
  have hbytes : (tr.filter (·.complete)).map Invocation.bytes = splitUnits [] (outside chunks.flatten) := by
    rw [← completeOnes_obs]; exact complete_are_units chunks
  have hsrc : ∀ i ∈ tr.filter (·.complete), f (i.head :: i.tail) = f [i.bytes] := by
    intro i hi
    obtain ⟨hhd, htl⟩ := hch i (List.mem_filter.mp hi).1
    have hv := hvalid i.bytes (by rw [← hbytes]; exact List.mem_map_of_mem hi)
    have hflat : (i.head :: i.tail).flatten = i.bytes := rfl
    rw [← hflat] at hv ⊢
    exact hf _ (List.forall_mem_cons.mpr ⟨hhd, htl⟩) hv (by simp [hhd])
  rw [List.map_congr_left hsrc, ← hbytes, List.map_map]
  rfl

/-- **C12 (end to end)**: for any sequence of well-formed NAL units free of forbidden byte sequences, serialised as an
Annex B stream and pushed in arbitrary pieces through the accumulating reader, the bit sources that parsers obtain
inside the handler from the complete invocations are, in order, exactly the bit sources of the NAL units taken alone
from contiguous buffers -/
theorem end_to_end (nals : List (Nat × List UInt8)) (hok : ∀ p ∈ nals, NalOk p.2)
    (hvalid : ∀ p ∈ nals, (Rbsp.unesc (p.2.drop 1)).2 = true)
    (chunks : List (List UInt8)) (hcut : chunks.flatten = serialise nals) :
    let calls := (pushAll St.start chunks).2 ++ (AnnexB.reset (pushAll St.start chunks).1).2
    let tr := (Accum.run Accum.init (stepsOf calls) []).2
    (tr.filter (·.complete)).map invSrc = nals.map (fun p => NalSrc.srcOfNal [p.2] true) := by
  intro calls tr
  have hunits : splitUnits [] (outside chunks.flatten) = nals.map (·.2) := by
    rw [hcut]; exact splitUnits_serialise nals hok
  have h := end_to_end_of (NalSrc.srcOfNal · true) NalSrc.srcOfNal_flatten chunks (by
    rw [hunits]; intro u hu; obtain ⟨p, hp, rfl⟩ := List.mem_map.mp hu; exact hvalid p hp)
  rw [hunits, List.map_map] at h
  refine Eq.trans (List.map_congr_left fun i hi => ?_) h
  rw [invSrc, show i.complete = true by simpa using (List.mem_filter.mp hi).2]

/-! ### the NAL units the theorem is about exist: `header :: escape(rbsp)` for any RBSP that ends in a non-zero byte
(rbsp_trailing_bits) is well formed and free of forbidden sequences, and un-escapes to that RBSP -/

theorem escapeGo_getLast? (z : Nat) (p : List UInt8) (x : UInt8) (hx : x ≠ 0) (hp : p.getLast? = some x) :
    (Rbsp.escapeGo z p).getLast? = some x := by
  induction p generalizing z with
  | nil => simp at hp
  | cons b rest ih =>
    cases rest with
    | nil =>
      obtain rfl : b = x := by simpa using hp
      by_cases h : z ≥ 2 ∧ b ≤ 3 <;> simp [Rbsp.escapeGo, hx, h]
    | cons c rest' =>
      have hp' : (c :: rest').getLast? = some x := by simpa [List.getLast?_cons_cons] using hp
      rw [Rbsp.escapeGo]
      by_cases h : z ≥ 2 ∧ b ≤ 3 <;> simp [h, List.getLast?_cons, ih _ hp']

theorem escaped_nal_ok (hdr : UInt8) (h0 : hdr ≠ 0) (rbsp : List UInt8) (x : UInt8) (hx : x ≠ 0)
    (hl : rbsp.getLast? = some x) :
    NalOk (hdr :: Rbsp.escape rbsp) ∧ Rbsp.unesc ((hdr :: Rbsp.escape rbsp).drop 1) = (rbsp, true) := by
  refine ⟨⟨by simp, noSC_nal hdr h0 rbsp, ?_⟩, by simp [Rbsp.unesc_escape]⟩
  intro h
  have he : (hdr :: Rbsp.escape rbsp).getLast? = some x := by
    rw [List.getLast?_cons, Rbsp.escape, escapeGo_getLast? 0 rbsp x hx hl]; rfl
  rw [(List.getLast_eq_iff_getLast?_eq_some h).mpr he]
  exact hx

/-- **C12, for encoder-produced streams**: NAL units given as (extra leading zeros, header byte, RBSP ending in its
trailing bits), emulation prevention applied by `escape`, serialised and pushed in any pieces: parsing inside the handler
gives, NAL by NAL, what parsing `header :: escape rbsp` alone gives -/
theorem end_to_end_escaped {β} (parse : Bits.Src → β) (units : List (Nat × UInt8 × List UInt8))
    (hu : ∀ u ∈ units, u.2.1 ≠ 0 ∧ ∃ x, x ≠ 0 ∧ u.2.2.getLast? = some x)
    (chunks : List (List UInt8))
    (hcut : chunks.flatten = serialise (units.map fun u => (u.1, u.2.1 :: Rbsp.escape u.2.2))) :
    let calls := (pushAll St.start chunks).2 ++ (AnnexB.reset (pushAll St.start chunks).1).2
    let tr := (Accum.run Accum.init (stepsOf calls) []).2
    (tr.filter (·.complete)).map (fun i => parse (invSrc i)) =
      units.map (fun u => parse (NalSrc.srcOfNal [u.2.1 :: Rbsp.escape u.2.2] true)) := by
  intro calls tr
  have hall : ∀ p ∈ units.map (fun u => (u.1, u.2.1 :: Rbsp.escape u.2.2)),
      NalOk p.2 ∧ (Rbsp.unesc (p.2.drop 1)).2 = true := by
    intro p hp
    obtain ⟨u, hu', rfl⟩ := List.mem_map.mp hp
    obtain ⟨h0, x, hx, hl⟩ := hu u hu'
    have := escaped_nal_ok u.2.1 h0 u.2.2 x hx hl
    exact ⟨this.1, by rw [this.2]⟩
  have := congrArg (List.map parse)
    (end_to_end _ (fun p hp => (hall p hp).1) (fun p hp => (hall p hp).2) chunks hcut)
  simp only [List.map_map] at this
  exact this

end C12
