import H264.SmallProof
namespace SmallProof
/-- model `Accum.frag` = real `NalAccumulator::nal_fragment` on every sequence of up to three deliveries (five shapes × two answers):
which deliveries invoke the handler, with which bytes and which completeness flag -/
theorem acc_model_eq_code : (allSeqs 10).map accRow = Generated.accRows :=
  eq_of_beq (by decide +kernel)
end SmallProof
