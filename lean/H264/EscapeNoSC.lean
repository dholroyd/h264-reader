import H264.Serialise
import H264.RbspSpec
/-! C12: an emulation-prevented NAL never contains a start-code pattern -/
namespace AnnexB
open Rbsp

theorem noSC_short (l : List UInt8) (h : l.length < 3) : noSC l = true := by
  match l with
  | [] => simp [noSC]
  | [_] => simp [noSC]
  | [_, _] => simp [noSC]
  | _ :: _ :: _ :: _ => simp at h; omega

theorem noSC_cons_nz (a : UInt8) (l : List UInt8) (h : a ≠ 0) : noSC (a :: l) = noSC l := by
  match l with
  | [] => simp [noSC]
  | [b] => simp [noSC]
  | b :: c :: rest => rw [noSC_cons3]; simp [h]

theorem noSC_0_nz (b : UInt8) (l : List UInt8) (h : b ≠ 0) : noSC (0 :: b :: l) = noSC (b :: l) := by
  match l with
  | [] => simp [noSC]
  | c :: rest => rw [noSC_cons3]; simp [h]

theorem noSC_00 (c : UInt8) (l : List UInt8) :
    noSC (0 :: 0 :: c :: l) = (!(c = 0 || c = 1) && noSC (0 :: c :: l)) := by
  rw [noSC_cons3]; simp

def zeros' (z : Nat) : List UInt8 := List.replicate z 0

/-- after `z ≤ 2` zero bytes, the escaped form of any payload contains no `00 00 00` / `00 00 01` -/
theorem noSC_escapeGo (p : List UInt8) (z : Nat) (hz : z ≤ 2) : noSC (zeros' z ++ escapeGo z p) = true := by
  induction p generalizing z with
  | nil =>
    match z, hz with
    | 0, _ => simp [escapeGo, zeros', noSC]
    | 1, _ => simp [escapeGo, zeros', noSC]
    | 2, _ => simp [escapeGo, zeros', List.replicate, noSC]
  | cons b bs ih =>
    have i0 : noSC (escapeGo 0 bs) = true := ih 0 (by omega)
    have i1 : noSC (0 :: escapeGo 1 bs) = true := ih 1 (by omega)
    have i2 : noSC (0 :: 0 :: escapeGo 2 bs) = true := ih 2 (by omega)
    by_cases hb0 : b = 0
    · subst hb0
      match z, hz with
      | 0, _ => simpa [escapeGo, zeros'] using i1
      | 1, _ => simpa [escapeGo, zeros', List.replicate] using i2
      | 2, _ => simp [escapeGo, zeros', List.replicate, noSC_00, noSC_0_nz, noSC_cons_nz, i1]
    · match z, hz with
      | 0, _ => simp [escapeGo, zeros', noSC_cons_nz, hb0, i0]
      | 1, _ => simp [escapeGo, zeros', List.replicate, noSC_0_nz, noSC_cons_nz, hb0, i0]
      | 2, _ =>
        by_cases hle : b ≤ 3
        · simp [escapeGo, zeros', List.replicate, noSC_00, noSC_0_nz, noSC_cons_nz, hb0, hle, i0]
        · have hb1 : b ≠ 1 := by intro h; subst h; exact hle (by decide)
          simp [escapeGo, zeros', List.replicate, noSC_00, noSC_0_nz, noSC_cons_nz, hb0, hb1, hle, i0]

/-- a NAL built as `header :: escape rbsp` with a non-zero header byte has no start-code pattern inside -/
theorem noSC_nal (hdr : UInt8) (h : hdr ≠ 0) (rbsp : List UInt8) : noSC (hdr :: escape rbsp) = true := by
  rw [noSC_cons_nz _ _ h]
  simpa [zeros', escape] using noSC_escapeGo rbsp 0 (by omega)

#print axioms noSC_nal
end AnnexB
