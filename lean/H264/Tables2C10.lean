import H264.Tables2
import H264.TableEq
/-! theorems of `Tables2` that belong to C10 (one module per property: DESIGN.md 14.7) -/
namespace Tables2
open Generated

/-- SEI payload types 0…511 (one- to three-byte codings): the reader delivers every message, and distinct
payloadType values are reported as distinct types -/
theorem seiType_rows : seiType.length = 512 ∧ ∀ i : Fin 512, seiType.getD i.val 999 = i.val :=
  getD_of_eq_ofFn (by decide +kernel) _

theorem seiType_injective : seiType.length = 512 ∧
    (∀ i : Fin 512, seiType.getD i.val 999 < 998) ∧
    (∀ i : Fin 512, ∀ j : Fin 512, seiType.getD i.val 999 = seiType.getD j.val 999 → i = j) := by
  obtain ⟨hl, hid⟩ := seiType_rows
  refine ⟨hl, ?_, ?_⟩
  · intro i; rw [hid i]; omega
  · intro i j h; rw [hid i, hid j] at h; exact Fin.ext h

end Tables2
