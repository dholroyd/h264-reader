import H264.AnnexBSpec
/-! C12 (byte level): segmenting a serialised Annex B stream gives back the NAL units -/
namespace AnnexB


/-- no `00 00 00` / `00 00 01` inside the NAL (what emulation prevention guarantees) -/
def noSC : List UInt8 → Bool
  | a :: b :: c :: rest => !(a = 0 && b = 0 && (c = 0 || c = 1)) && noSC (b :: c :: rest)
  | _ => true
termination_by l => l.length

/-- a NAL unit as it can stand in an Annex B stream: non-empty, free of start-code patterns, last byte ≠ 0 -/
def NalOk (n : List UInt8) : Prop := n ≠ [] ∧ noSC n = true ∧ ∀ h : n ≠ [], n.getLast h ≠ 0

theorem noSC_cons3 (a b c : UInt8) (rest : List UInt8) :
    noSC (a :: b :: c :: rest) = (!(a = 0 && b = 0 && (c = 0 || c = 1)) && noSC (b :: c :: rest)) := by
  rw [noSC]

theorem noSC_window {a b c : UInt8} {rest : List UInt8} (h : noSC (a :: b :: c :: rest) = true) :
    ¬ (a = 0 ∧ b = 0 ∧ c = 0) ∧ ¬ (a = 0 ∧ b = 0 ∧ c = 1) ∧ noSC (b :: c :: rest) = true := by
  rw [noSC_cons3] at h
  simp only [Bool.and_eq_true, Bool.not_eq_true'] at h
  refine ⟨?_, ?_, h.2⟩ <;> rintro ⟨x, y, z⟩ <;> simp [x, y, z] at h

/-- inside a clean NAL that is followed by `00 00 c …` (c ∈ {0,1}) every byte is data -/
theorem inside_nal (n : List UInt8) (hn : n ≠ []) (hsc : noSC n = true) (hlast : n.getLast hn ≠ 0)
    (c : UInt8) (rest : List UInt8) :
    inside (n ++ 0 :: 0 :: c :: rest) = n.map Ev.byte ++ inside (0 :: 0 :: c :: rest) := by
  induction n with
  | nil => exact absurd rfl hn
  | cons a n ih =>
    match n, ih with
    | [], _ => exact inside_cons_nz a _ (by simpa using hlast)
    | [b], _ =>
      have hb : b ≠ 0 := by simpa using hlast
      simp only [List.cons_append, List.nil_append, List.map_cons, List.map_nil]
      rw [inside_3, inside_cons_nz b _ hb]; simp [hb]
    | b :: c' :: n', ih =>
      obtain ⟨h0, h1, h2⟩ := noSC_window hsc
      have := ih (by simp) h2 (by simpa using hlast)
      simp only [List.cons_append, List.map_cons] at this ⊢
      rw [inside_3, if_neg h0, if_neg h1, this]

/-- at the very end of the stream the open unit is closed by `reset` -/
theorem inside_nal_end (n : List UInt8) (hsc : noSC n = true) :
    inside n = n.map Ev.byte ++ [Ev.endUnit] := by
  induction n with
  | nil => simp [inside]
  | cons a n ih =>
    match n, ih with
    | [], _ => simp [inside]
    | [b], _ => simp [inside]
    | b :: c :: n', ih =>
      obtain ⟨h0, h1, h2⟩ := noSC_window hsc
      rw [inside_3, if_neg h0, if_neg h1, ih h2]
      rfl

/-- `k` extra zero bytes before a start code prefix are skipped outside a unit (4-byte start codes,
leading_zero_8bits, trailing_zero_8bits of the previous NAL) -/
theorem outside_zeros_sc (k : Nat) (rest : List UInt8) :
    outside (List.replicate (k + 2) 0 ++ 1 :: rest) = inside rest := by
  induction k with
  | zero => simp only [List.replicate, List.cons_append, List.nil_append]; rw [outside_3]; simp
  | succ k ih =>
    simp only [List.replicate_succ, List.cons_append] at ih ⊢
    rw [outside_3, if_neg (by decide)]
    exact ih

/-- one serialised NAL: `lead` extra zeros, the 3-byte start code prefix, the NAL bytes -/
def serialiseOne (lead : Nat) (n : List UInt8) : List UInt8 := List.replicate (lead + 2) 0 ++ 1 :: n

def serialise : List (Nat × List UInt8) → List UInt8
  | [] => []
  | (lead, n) :: rest => serialiseOne lead n ++ serialise rest

def unitsOf (nals : List (Nat × List UInt8)) : List Ev :=
  (nals.map fun p => p.2.map Ev.byte ++ [Ev.endUnit]).flatten

theorem unitsOf_cons (p : Nat × List UInt8) (rest : List (Nat × List UInt8)) :
    unitsOf (p :: rest) = p.2.map Ev.byte ++ Ev.endUnit :: unitsOf rest := by
  simp [unitsOf]

theorem outside_serialise_cons (lead : Nat) (n : List UInt8) (rest : List (Nat × List UInt8)) :
    outside (serialise ((lead, n) :: rest)) = inside (n ++ serialise rest) := by
  simp only [serialise, serialiseOne, List.append_assoc, List.cons_append]
  exact outside_zeros_sc lead (n ++ serialise rest)

theorem serialise_cons_shape (lead : Nat) (n : List UInt8) (rest : List (Nat × List UInt8)) :
    ∃ c t, serialise ((lead, n) :: rest) = 0 :: 0 :: c :: t ∧ (c = 0 ∨ c = 1) := by
  cases lead with
  | zero => exact ⟨1, n ++ serialise rest, by simp [serialise, serialiseOne, List.replicate_succ], .inr rfl⟩
  | succ l =>
    exact ⟨0, List.replicate l 0 ++ 1 :: (n ++ serialise rest), by simp [serialise, serialiseOne, List.replicate_succ],
      .inl rfl⟩

/-- at a start code a unit ends, and the search for the next begins at the same place -/
theorem inside_sc (c : UInt8) (hc : c = 0 ∨ c = 1) (t : List UInt8) :
    inside (0 :: 0 :: c :: t) = .endUnit :: outside (0 :: 0 :: c :: t) := by
  rcases hc with rfl | rfl <;> rw [inside_3, outside_3] <;> simp

/-- **C12 (byte level)**: the Annex B segmentation of a serialised sequence of well-formed NAL units
(3- or 4-byte start codes, any number of extra zero bytes before each start code) is exactly that sequence -/
theorem segment_serialise (nals : List (Nat × List UInt8)) (h : ∀ p ∈ nals, NalOk p.2) :
    outside (serialise nals) = unitsOf nals := by
  induction nals with
  | nil => simp [serialise, unitsOf, outside]
  | cons p rest ih =>
    obtain ⟨lead, n⟩ := p
    obtain ⟨hn, hsc, hl⟩ := h (lead, n) (by simp)
    have ih' := ih (fun q hq => h q (by simp [hq]))
    rw [outside_serialise_cons, unitsOf_cons]
    cases rest with
    | nil => simpa [serialise, unitsOf] using inside_nal_end n hsc
    | cons q rest' =>
      obtain ⟨c, t, ht, hc⟩ := serialise_cons_shape q.1 q.2 rest'
      rw [ht, inside_nal n hn hsc (hl hn) c t, inside_sc c hc, ← ht, ih']

#print axioms segment_serialise
end AnnexB
