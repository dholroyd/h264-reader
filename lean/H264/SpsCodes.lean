import H264.SpsStd
import H264.CodesSimp
/-! The SPS syntax structures, one statement each: the model parser is the exact decoder (`Codes`) of the standard's
encoder on the standard's ranges. The forward round trip of a structure is `.enc` of its statement, the converse is
the left-to-right direction. The proofs follow the two recipes of `Codes.lean` (at `After`). -/
namespace Sps
open Bits

/-! ### HRD parameters (E.1.2) -/

theorem readCpbSpec_codes : Codes readCpbSpec CpbSpec.WF encCpbSpec := by
  intro s ⟨a, b, c⟩ s'
  rw [after_start]
  simp only [readCpbSpec, parse_iff]
  simp [CpbSpec.WF, Ue, encCpbSpec, and_assoc]
  exact iff_of_eq (by ac_rfl)

theorem readCpbSpecs_codes (n : Nat) :
    Codes (readCpbSpecs n) (fun cs => cs.length = n ∧ ∀ c ∈ cs, c.WF) fun cs => (cs.map encCpbSpec).flatten :=
  readCpbSpec_codes.list rfl (fun _ => rfl) n

theorem readHrd_codes : Codes readHrd OptHrdWF encHrd := by
  intro s h s'
  rw [after_start]
  simp only [readHrd, parse_hyp, (readCpbSpecs_codes _).after_bind_hyp]
  constructor
  · rintro ⟨_ | _, r⟩
    · obtain ⟨rfl, c⟩ := r; exact ⟨trivial, c⟩
    · obtain ⟨k, -, h31, _, wbr, _, wcs, specs, ⟨hl, w⟩, _, wa, _, wb, _, wc, _, wd, rfl, c⟩ := r
      -- the parser reads `k = cpb_cnt_minus1` and then `k + 1` entries; the encoder writes `specs.length - 1`
      obtain rfl : k = specs.length - 1 := by omega
      exact ⟨⟨wbr, wcs, by show 1 ≤ specs.length; omega, by show specs.length ≤ 32; omega, w, wa, wb, wc, wd⟩, c⟩
  · rintro ⟨w, c⟩
    rcases h with _ | h
    · exact ⟨false, rfl, c⟩
    · obtain ⟨wbr, wcs, h1, h32, w, wa, wb, wc, wd⟩ := w
      exact ⟨true, _, by omega, by omega, _, wbr, _, wcs, _, ⟨by omega, w⟩, _, wa, _, wb, _, wc, _, wd, rfl, c⟩

theorem readCpbSpecs_enc (cs : List CpbSpec) (wf : ∀ c ∈ cs, c.WF) (rest fin) :
    readCpbSpecs cs.length ⟨(cs.map encCpbSpec).flatten ++ rest, fin⟩ = .ok (cs, ⟨rest, fin⟩) :=
  (readCpbSpecs_codes _).enc ⟨rfl, wf⟩ rest fin

theorem readHrd_enc (h : Option Hrd) (wf : OptHrdWF h) (rest fin) :
    readHrd ⟨encHrd h ++ rest, fin⟩ = .ok (h, ⟨rest, fin⟩) :=
  readHrd_codes.enc wf rest fin

/-! ### VUI parameters (E.1.1) -/

theorem readAspectRatioInfo_codes : Codes readAspectRatioInfo (OptWF AspectRatioInfo.WF) encAspectRatioInfo := by
  intro s v s'
  rw [after_start]
  simp only [readAspectRatioInfo, parse_iff]
  rcases v with _ | v | ⟨w, h⟩ <;> simp [AspectRatioInfo.WF, encAspectRatioInfo, and_assoc]
  · -- `.idc v`: the parser has seen `v ≠ 255` in 8 bits, the range says `v < 255`
    constructor
    · rintro ⟨_, h, rfl, c, u⟩; exact ⟨by omega, c⟩
    · rintro ⟨u, c⟩; exact ⟨_, by omega, rfl, c, by omega⟩
  · exact iff_of_eq (by ac_rfl)

theorem readOverscan_codes : Codes readOverscan (fun _ => True) encOverscan := by
  intro s v s'
  rw [after_start]
  simp only [readOverscan, parse_iff]
  cases v <;> simp [encOverscan]

theorem readColourDescription_codes :
    Codes readColourDescription (OptWF ColourDescription.WF) encColourDescription := by
  intro s v s'
  rw [after_start]
  simp only [readColourDescription, parse_iff]
  rcases v with _ | ⟨a, b, c⟩ <;> simp [ColourDescription.WF, encColourDescription, and_assoc]
  exact iff_of_eq (by ac_rfl)

theorem readVideoSignalType_codes : Codes readVideoSignalType (OptWF VideoSignalType.WF) encVideoSignalType := by
  intro s v s'
  rw [after_start]
  simp only [readVideoSignalType, parse_iff, readColourDescription_codes.after_bind]
  rcases v with _ | ⟨a, b, c⟩ <;> simp [VideoSignalType.WF, encVideoSignalType, and_assoc]
  -- `VideoSignalType.WF` spells `OptWF ColourDescription.WF c` as a `match`
  constructor
  · rintro ⟨cs, wc, wa⟩; exact ⟨wa, by cases c <;> exact wc, cs⟩
  · rintro ⟨wa, wc, cs⟩; exact ⟨cs, by cases c <;> exact wc, wa⟩

theorem readChromaLocInfo_codes :
    Codes readChromaLocInfo (OptWF fun a => Ue a.top ∧ Ue a.bottom) encChromaLocInfo := by
  intro s v s'
  rw [after_start]
  simp only [readChromaLocInfo, parse_iff]
  rcases v with _ | ⟨a, b⟩ <;> simp [Ue, encChromaLocInfo, and_assoc]
  exact iff_of_eq (by ac_rfl)

theorem readTimingInfo_codes :
    Codes readTimingInfo (OptWF fun t => t.numUnitsInTick < 2^32 ∧ t.timeScale < 2^32) encTimingInfo := by
  intro s v s'
  rw [after_start]
  simp only [readTimingInfo, parse_iff]
  rcases v with _ | ⟨a, b, c⟩ <;> simp [encTimingInfo, and_assoc]
  exact iff_of_eq (by ac_rfl)

theorem readBitstreamRestrictions_codes (m : Nat) :
    Codes (readBitstreamRestrictions m) (OptWF fun b => b.WF m) encBitstreamRestrictions := by
  intro s v s'
  rw [after_start]
  simp only [readBitstreamRestrictions, parse_hyp]
  constructor
  · rintro ⟨_ | _, h⟩
    · obtain ⟨rfl, c⟩ := h; exact ⟨trivial, c⟩
    · -- in program order: the flag; four denominators and lengths, each with its `ue(v)` range and its guard; `r`
      -- and `x` with their ranges, then the two guards on them
      obtain ⟨mv, a, -, ha, b, -, hb, c, -, hc, d, -, hd, r, -, x, ux, hr, hm, rfl, cs⟩ := h
      exact ⟨⟨Nat.le_of_not_gt ha, Nat.le_of_not_gt hb, Nat.le_of_not_gt hc, Nat.le_of_not_gt hd,
        Nat.le_of_not_gt hr, Nat.le_of_not_lt hm, ux⟩, cs⟩
  · rintro ⟨w, cs⟩
    rcases v with _ | v
    · exact ⟨false, rfl, cs⟩
    · obtain ⟨ha, hb, hc, hd, hr, hm, ux⟩ := w
      -- the ranges bound only `max_dec_frame_buffering` by 2^32 - 1; for the others it follows from `≤ 16`, `r ≤ x`
      have u16 : ∀ {k}, k ≤ 16 → k < 2^32 - 1 := fun h => by omega
      exact ⟨true, _, _, u16 ha, Nat.not_lt.2 ha, _, u16 hb, Nat.not_lt.2 hb, _, u16 hc, Nat.not_lt.2 hc,
        _, u16 hd, Nat.not_lt.2 hd, _, Nat.lt_of_le_of_lt hr ux, _, ux, Nat.not_lt.2 hr, Nat.not_lt.2 hm, rfl, cs⟩

theorem readLowDelayFlag_codes (b : Bool) : Codes (readLowDelayFlag b) (fun ld => ld.isSome = b) encOptBool := by
  intro s ld s'
  rw [after_start]
  simp only [readLowDelayFlag, parse_iff]
  cases b <;> cases ld <;> simp [encOptBool]

/-- `Vui.WF` with its `match`es read as `OptWF`, the form in which the parts' statements deliver them -/
theorem Vui.WF_iff (v : Vui) (m : Nat) : v.WF m ↔
    OptWF AspectRatioInfo.WF v.aspectRatioInfo ∧ OptWF VideoSignalType.WF v.videoSignalType ∧
    OptWF (fun a => Ue a.top ∧ Ue a.bottom) v.chromaLocInfo ∧
    OptWF (fun t => t.numUnitsInTick < 2^32 ∧ t.timeScale < 2^32) v.timingInfo ∧
    OptHrdWF v.nalHrd ∧ OptHrdWF v.vclHrd ∧ v.lowDelayHrdFlag.isSome = (v.nalHrd.isSome || v.vclHrd.isSome) ∧
    OptWF (fun b => b.WF m) v.bitstreamRestrictions := by
  obtain ⟨ar, os, vs, cl, ti, nal, vcl, ld, ps, br⟩ := v
  cases ar <;> cases vs <;> cases cl <;> cases ti <;> cases br <;> rfl

theorem readVui_codes (m : Nat) : Codes (readVui m) (OptWF fun v => v.WF m) encVui := by
  intro s v s'
  rw [after_start]
  simp only [readVui, parse_hyp, readAspectRatioInfo_codes.after_bind_hyp, readOverscan_codes.after_bind_hyp,
    readVideoSignalType_codes.after_bind_hyp, readChromaLocInfo_codes.after_bind_hyp,
    readTimingInfo_codes.after_bind_hyp, readHrd_codes.after_bind_hyp, (readLowDelayFlag_codes _).after_bind_hyp,
    (readBitstreamRestrictions_codes m).after_bind_hyp]
  constructor
  · rintro ⟨_ | _, h⟩
    · obtain ⟨rfl, c⟩ := h; exact ⟨trivial, c⟩
    · obtain ⟨ar, war, os, -, vs, wvs, cl, wcl, ti, wti, nal, wnal, vcl, wvcl, ld, wld, ps, br, wbr, rfl, c⟩ := h
      exact ⟨(Vui.WF_iff _ m).2 ⟨war, wvs, wcl, wti, wnal, wvcl, wld, wbr⟩, c⟩
  · rintro ⟨w, c⟩
    rcases v with _ | v
    · exact ⟨false, rfl, c⟩
    · obtain ⟨war, wvs, wcl, wti, wnal, wvcl, wld, wbr⟩ := (Vui.WF_iff v m).1 w
      exact ⟨true, _, war, _, trivial, _, wvs, _, wcl, _, wti, _, wnal, _, wvcl, _, wld, _, _, wbr, rfl, c⟩

theorem readVui_enc (v : Option Vui) (m : Nat)
    (wf : match v with | none => True | some v => v.WF m) (rest fin) :
    readVui m ⟨encVui v ++ rest, fin⟩ = .ok (v, ⟨rest, fin⟩) :=
  (readVui_codes m).enc (by cases v <;> exact wf) rest fin

/-! ### the remaining structures of 7.3.2.1.1 -/

theorem readFrameCropping_codes :
    Codes readFrameCropping (OptWF fun c => Ue c.left ∧ Ue c.right ∧ Ue c.top ∧ Ue c.bottom) encFrameCropping := by
  intro s v s'
  rw [after_start]
  simp only [readFrameCropping, parse_iff]
  rcases v with _ | ⟨l, r, t, b⟩ <;> simp [Ue, encFrameCropping, and_assoc]
  exact iff_of_eq (by ac_rfl)

theorem readFrameMbsFlags_codes : Codes readFrameMbsFlags (fun _ => True) encFrameMbsFlags := by
  intro s v s'
  rw [after_start]
  simp only [readFrameMbsFlags, parse_iff]
  cases v <;> simp [encFrameMbsFlags]

theorem readSeList_codes (name) (n : Nat) :
    Codes (readSeList name n) (fun xs => xs.length = n ∧ ∀ x ∈ xs, SeRange x) fun xs => (xs.map encSe).flatten :=
  (readSe_codes name).list rfl (fun _ => rfl) n

theorem readPicOrderCnt_codes : Codes readPicOrderCnt PicOrderCntType.WF encPicOrderCnt := by
  intro s v s'
  rw [after_start]
  simp only [readPicOrderCnt, ↓after_guard_hyp, after_ite_cases_hyp, parse_hyp, (readSeList_codes _ _).after_bind_hyp]
  constructor
  · -- the alternatives are the types 0, 1 and 2, each behind the failed tests of those before it
    rintro ⟨t, -, ⟨rfl, l, -, h12, rfl, c⟩ | ⟨-, ⟨rfl, f, a, wa, b, wb, n, -, h255, offs, ⟨rfl, w⟩, rfl, c⟩ |
      ⟨-, ⟨rfl, rfl, c⟩ | ⟨-, ⟨⟩⟩⟩⟩⟩
    · exact ⟨Nat.le_of_not_gt h12, c⟩
    · -- the parser reads the count and then that many offsets; the encoder writes `offs.length`
      exact ⟨⟨wa, wb, Nat.le_of_not_gt h255, w⟩, c⟩
    · exact ⟨trivial, c⟩
  · rintro ⟨w, c⟩
    rcases v with l | ⟨f, a, b, offs⟩ | _
    · -- `l ≤ 12` implies the range of a `ue(v)`
      exact ⟨0, by omega, .inl ⟨rfl, l, Nat.lt_of_le_of_lt w (by omega), Nat.not_lt.2 w, rfl, c⟩⟩
    · obtain ⟨wa, wb, h255, w⟩ := w
      exact ⟨1, by omega, .inr ⟨by omega, .inl ⟨rfl, f, a, wa, b, wb, offs.length, by omega, Nat.not_lt.2 h255, offs,
        ⟨rfl, w⟩, rfl, c⟩⟩⟩
    · exact ⟨2, by omega, .inr ⟨by omega, .inr ⟨by omega, .inl ⟨rfl, rfl, c⟩⟩⟩⟩

theorem readPicOrderCnt_enc (p : PicOrderCntType) (wf : p.WF) (rest fin) :
    readPicOrderCnt ⟨encPicOrderCnt p ++ rest, fin⟩ = .ok (p, ⟨rest, fin⟩) :=
  readPicOrderCnt_codes.enc wf rest fin

/-! ### scaling lists (7.3.2.1.1.1)

The parser keeps what the standard's process *derives* from the coded deltas, not the deltas, so a value has several
codings: the statements are `Parses` with the coded syntax as a witness. The loops carry accumulators, which
`specFill` / `specLists` mirror argument by argument. -/

theorem fillScalingList_parses (n j last next : Nat) (ud : Bool) (acc : List Nat) :
    Parses (fillScalingList n j last next ud acc) fun r e => ∃ ds l, specFill n j last next ud ds = some (l, r.2) ∧
      r.1 = acc.reverse ++ l ∧ (∀ d ∈ ds, -128 ≤ d ∧ d ≤ 127) ∧ e = (ds.map encSe).flatten := by
  induction n generalizing j last next ud acc with
  | zero =>
    intro s ⟨l', u⟩ s'
    rw [after_start]
    simp only [fillScalingList, parse_iff]
    simp [specFill]
    constructor
    · rintro ⟨⟨rfl, rfl⟩, c⟩; exact ⟨_, ⟨[], [], ⟨rfl, rfl, rfl⟩, by simp, nofun, rfl⟩, c⟩
    · rintro ⟨_, ⟨_, _, ⟨rfl, rfl, rfl⟩, rfl, -, rfl⟩, c⟩; exact ⟨⟨by simp, rfl⟩, c⟩
  | succ n ih =>
    intro s ⟨l', u⟩ s'
    rw [after_start]
    by_cases hn : next = 0
    · -- no delta is read; the previous value is repeated
      simp only [fillScalingList, hn, ne_eq, not_true_eq_false, if_false, (ih _ _ _ _ _).after]
      constructor
      · rintro ⟨_, ⟨ds, l, hs, rfl, hd, rfl⟩, c⟩
        exact ⟨_, ⟨ds, last :: l, by simp [specFill, hs], by simp, hd, rfl⟩, c⟩
      · rintro ⟨_, ⟨ds, l, hs, rfl, hd, rfl⟩, c⟩
        simp [specFill] at hs
        obtain ⟨l0, hs, rfl⟩ := hs
        exact ⟨_, ⟨ds, l0, hs, by simp, hd, rfl⟩, c⟩
    · -- one delta `d` is read: it heads the coded sequence
      simp only [fillScalingList, hn, ne_eq, not_false_eq_true, if_true, parse_hyp, (ih _ _ _ _ _).after]
      constructor
      · rintro ⟨d, -, hr, _, ⟨ds, l, hs, rfl, hd, rfl⟩, c⟩
        exact ⟨_, ⟨d :: ds, _, by simp only [specFill, ne_eq, hn, not_false_eq_true, ↓reduceIte, hs]; rfl, by simp,
          List.forall_mem_cons.2 ⟨by omega, hd⟩, rfl⟩, by simpa using c⟩
      · rintro ⟨_, ⟨ds, l, hs, rfl, hd, rfl⟩, c⟩
        cases ds with
        | nil => simp [specFill, hn] at hs
        | cons d ds =>
          simp [specFill, hn] at hs
          obtain ⟨l0, hs, rfl⟩ := hs
          obtain ⟨hd0, hd⟩ := List.forall_mem_cons.1 hd
          exact ⟨d, by unfold SeRange; omega, by omega, _, ⟨ds, l0, hs, by simp, hd, rfl⟩, by simpa using c⟩

theorem fillScalingList_enc (n j last next : Nat) (ud : Bool) (acc : List Nat) (ds : List Int)
    (l : List Nat) (u : Bool) (hs : specFill n j last next ud ds = some (l, u))
    (hd : ∀ d ∈ ds, -128 ≤ d ∧ d ≤ 127) (rest fin) :
    fillScalingList n j last next ud acc ⟨(ds.map encSe).flatten ++ rest, fin⟩
      = .ok ((acc.reverse ++ l, u), ⟨rest, fin⟩) :=
  (fillScalingList_parses _ _ _ _ _ _).enc ⟨ds, l, hs, rfl, hd, rfl⟩ rest fin

theorem fillScalingList_exact (n j last next : Nat) (ud : Bool) (acc : List Nat) (s s' : Src)
    (l' : List Nat) (u : Bool) (h : fillScalingList n j last next ud acc s = .ok ((l', u), s')) :
    ∃ ds l, specFill n j last next ud ds = some (l, u) ∧ l' = acc.reverse ++ l ∧
      (∀ d ∈ ds, -128 ≤ d ∧ d ≤ 127) ∧ s.bits = (ds.map encSe).flatten ++ s'.bits ∧ s'.fin = s.fin := by
  obtain ⟨_, ⟨ds, l, hs, hl, hd, rfl⟩, c⟩ := (fillScalingList_parses _ _ _ _ _ _ _ _ _).1 h
  exact ⟨ds, l, hs, hl, hd, c⟩

/-- one list together with its `seq_scaling_list_present_flag`, which `readScalingLists` reads in front -/
theorem readScalingList_parses (size : Nat) :
    Parses (readBool "seq_scaling_list_present_flag" >>= readScalingList size) fun r e =>
      ∃ sl, specScalingList size sl = some r ∧ deltasOk sl ∧ e = encScalingList sl := by
  intro s r s'
  rw [after_start]
  simp only [readScalingList, parse_iff, (fillScalingList_parses _ _ _ _ _ _).after_bind]
  simp only [Bool.exists_bool, Bool.not_false, Bool.not_true, if_true, Bool.false_eq_true, if_false, List.nil_append,
    List.reverse_nil]
  constructor
  · rintro (⟨rfl, c⟩ | ⟨⟨l, u⟩, _, ⟨ds, _, hs, rfl, hd, rfl⟩, h⟩)
    · exact ⟨_, ⟨none, rfl, trivial, rfl⟩, c⟩
    · cases u <;> obtain ⟨rfl, c⟩ := h <;> exact ⟨_, ⟨some ds, by simp [specScalingList, hs], hd, rfl⟩, c⟩
  · rintro ⟨_, ⟨_ | ds, hs, hd, rfl⟩, c⟩
    · cases hs; exact .inl ⟨rfl, c⟩
    · simp only [specScalingList, Option.map_eq_some_iff] at hs
      obtain ⟨⟨l, u⟩, hs, rfl⟩ := hs
      exact .inr ⟨(l, u), _, ⟨ds, l, hs, rfl, hd, rfl⟩, by cases u <;> exact ⟨rfl, c⟩⟩

theorem readScalingLists_parses (size4 n i : Nat) (a4 a8 : List ScalingList) :
    Parses (readScalingLists size4 n i a4 a8) fun m e => ∃ ls x y, ls.length = n ∧ specLists size4 i ls = some (x, y) ∧
      (∀ sl ∈ ls, deltasOk sl) ∧ m = ⟨a4.reverse ++ x, a8.reverse ++ y⟩ ∧ e = (ls.map encScalingList).flatten := by
  induction n generalizing i a4 a8 with
  | zero =>
    intro s m s'
    rw [after_start]
    simp only [readScalingLists, parse_iff]
    constructor
    · rintro ⟨rfl, c⟩; exact ⟨_, ⟨[], [], [], rfl, rfl, nofun, by simp, rfl⟩, c⟩
    · rintro ⟨_, ⟨ls, x, y, hl, hs, -, rfl, rfl⟩, c⟩
      obtain rfl := List.eq_nil_of_length_eq_zero hl
      cases hs
      exact ⟨by simp, c⟩
  | succ n ih =>
    intro s m s'
    rw [after_start]
    -- a 4x4 list while `i < size4`, then 8x8 lists: the same argument, on the other accumulator
    by_cases hi : i < size4 <;>
    · simp only [readScalingLists, hi, ↓reduceIte]
      rw [← bind_bind]
      simp only [(readScalingList_parses _).after_bind, (ih _ _ _).after]
      constructor
      · rintro ⟨r, _, ⟨sl, hr, hd0, rfl⟩, _, ⟨ls, x, y, rfl, hs, hd, rfl, rfl⟩, c⟩
        exact ⟨_, ⟨sl :: ls, _, _, rfl, by simp only [specLists, hi, ↓reduceIte, hr, hs]; rfl,
          List.forall_mem_cons.2 ⟨hd0, hd⟩, by simp, rfl⟩, by simpa using c⟩
      · rintro ⟨_, ⟨ls, x, y, hl, hs, hd, rfl, rfl⟩, c⟩
        obtain ⟨sl, ls, rfl⟩ := List.exists_cons_of_length_eq_add_one hl
        simp only [specLists, hi, ↓reduceIte, Option.bind_eq_some_iff, Option.map_eq_some_iff] at hs
        obtain ⟨r, hr, ⟨x0, y0⟩, hs, h⟩ := hs
        cases h
        obtain ⟨hd0, hd⟩ := List.forall_mem_cons.1 hd
        exact ⟨r, _, ⟨sl, hr, hd0, rfl⟩, _, ⟨ls, x0, y0, by simpa using hl, hs, hd, by simp, rfl⟩, by simpa using c⟩

theorem readScalingLists_enc (size4 : Nat) (ls : ScalingSyntax) (i : Nat) (a4 a8 x y : List ScalingList)
    (hs : specLists size4 i ls = some (x, y)) (hd : ∀ sl ∈ ls, deltasOk sl) (rest fin) :
    readScalingLists size4 ls.length i a4 a8 ⟨(ls.map encScalingList).flatten ++ rest, fin⟩
      = .ok (⟨a4.reverse ++ x, a8.reverse ++ y⟩, ⟨rest, fin⟩) :=
  (readScalingLists_parses _ _ _ _ _).enc ⟨ls, x, y, rfl, hs, hd, rfl, rfl⟩ rest fin

/-! ### chroma format, bit depths and the scaling matrix -/

theorem readBitDepthMinus8_codes : Codes readBitDepthMinus8 (· ≤ 6) encUe :=
  readUeMax_codes _ 6 _ (by omega)

theorem readSeparateColourPlane_codes (idc : Nat) : Codes (readSeparateColourPlane idc)
    (fun sep => idc ≠ 3 → sep = false) fun sep => if idc = 3 then encBool sep else [] := by
  intro s v s'
  rw [after_start]
  simp only [readSeparateColourPlane, parse_iff]
  by_cases h : idc = 3 <;> simp [h, (readBool_codes _).after]

theorem readOptScalingMatrix_parses (idc : Nat) :
    Parses (readOptScalingMatrix idc) fun m e => ∃ sm, MatrixDerives idc sm m ∧ e = encOptScalingLists sm := by
  intro s m s'
  rw [after_start]
  simp only [readOptScalingMatrix, readSeqScalingMatrix, parse_iff, (readScalingLists_parses _ _ _ _ _).after_bind]
  simp only [Bool.exists_bool, if_true, Bool.false_eq_true, if_false, List.nil_append, List.reverse_nil]
  constructor
  · rintro (⟨rfl, c⟩ | ⟨_, _, ⟨ls, x, y, hl, hs, hd, rfl, rfl⟩, rfl, c⟩)
    · exact ⟨_, ⟨none, rfl, rfl⟩, c⟩
    · exact ⟨_, ⟨some ls, ⟨hl, hd, x, y, hs, rfl⟩, rfl⟩, c⟩
  · rintro ⟨_, ⟨_ | ls, hm, rfl⟩, c⟩
    · cases hm; exact .inl ⟨rfl, c⟩
    · obtain ⟨hl, hd, x, y, hs, rfl⟩ := hm
      exact .inr ⟨_, _, ⟨ls, x, y, hl, hs, hd, rfl, rfl⟩, rfl, c⟩

theorem chromaFormatIdc_ofIdc (idc : Nat) : chromaFormatIdc (ChromaFormat.ofIdc idc) = idc := by
  unfold ChromaFormat.ofIdc
  split <;> rfl

theorem readChromaInfo_parses (p : Nat) : Parses (readChromaInfo p) fun c e =>
    ∃ sm, c.WFIf (hasChromaInfo p) sm ∧ e = encChromaInfoIf (hasChromaInfo p) c sm := by
  intro s c s'
  rw [after_start]
  cases hp : hasChromaInfo p
  · simp [readChromaInfo, hp, parse_iff, ChromaInfo.WFIf, encChromaInfoIf, and_assoc]
  · simp only [readChromaInfo, hp, if_true, parse_hyp, (readSeparateColourPlane_codes _).after_bind_hyp,
      readBitDepthMinus8_codes.after_bind_hyp, (readOptScalingMatrix_parses _).after_bind]
    obtain ⟨cf, sep, bl, bc, q, m⟩ := c
    simp only [ChromaInfo.WFIf, encChromaInfoIf, if_true]
    -- the parser stores `ofIdc idc`, the encoder writes `chromaFormatIdc` of what is stored
    constructor
    · rintro ⟨idc, widc, _, wsep, _, wbl, _, wbc, _, _, _, ⟨sm, hm, rfl⟩, h, c⟩
      cases h
      simp only [chromaFormatIdc_ofIdc]
      exact ⟨_, ⟨sm, ⟨widc, trivial, wsep, wbl, wbc, hm⟩, rfl⟩, by simpa [List.append_assoc] using c⟩
    · rintro ⟨_, ⟨sm, ⟨w1, w2, w3, w4, w5, w6⟩, rfl⟩, c⟩
      exact ⟨_, w1, sep, w3, bl, w4, bc, w5, q, m, _, ⟨sm, w6, rfl⟩, by rw [← w2],
        by simpa [List.append_assoc] using c⟩

theorem readChromaInfo_enc (profileIdc : Nat) (hmvc : mvcOnlyProfile profileIdc = false)
    (c : ChromaInfo) (sm : Option ScalingSyntax)
    (wf : c.WF profileIdc sm) (rest fin) :
    readChromaInfo profileIdc ⟨encChromaInfo profileIdc c sm ++ rest, fin⟩ = .ok (c, ⟨rest, fin⟩) := by
  rw [encChromaInfo_eq, ← hasChromaInfo_std _ hmvc]
  rw [ChromaInfo.WF_iff, ← hasChromaInfo_std _ hmvc] at wf
  exact (readChromaInfo_parses _).enc ⟨sm, wf, rfl⟩ rest fin

#print axioms readChromaInfo_enc
end Sps
