import H264.Bits
import H264.Fast
/-! From a (chunked, possibly partial) NAL to the bit source the syntax parsers see.

`bitstream-io` pulls bytes out of `rbsp::ByteReader` one `read` at a time and never retries after an error, so
what a parser can observe of a NAL is `drain`: the bytes single-byte reads deliver before the first error or end,
and the kind of that end. -/
namespace NalSrc
open Rbsp

def drainGo : Nat → BR → List UInt8 → List UInt8 × IoKind
  | 0, _, acc => (acc, .eof)
  | fuel+1, r, acc =>
    match Rbsp.read r 1 with
    | (_, .error k) => (acc, k)
    | (r', .ok bs) => if bs = [] then (acc, .eof) else drainGo fuel r' (acc ++ bs)

/-- bytes delivered by repeated `read(1)` until the first error (`wouldBlock` / `invalidData`) or end (`eof`) -/
def drain (r : BR) : List UInt8 × IoKind := drainGo (r.inner.rest.length + 2) r []


def drainGoFast : Nat → BR → List UInt8 → List UInt8 × IoKind
  | 0, _, ar => (ar.reverse, .eof)
  | fuel+1, r, ar =>
    match Rbsp.read r 1 with
    | (_, .error k) => (ar.reverse, k)
    | (r', .ok bs) => if bs = [] then (ar.reverse, .eof) else drainGoFast fuel r' (bs.reverse ++ ar)

theorem drainGoFast_eq (fuel : Nat) (r : BR) (ar : List UInt8) :
    drainGoFast fuel r ar = drainGo fuel r ar.reverse := by
  induction fuel generalizing r ar with
  | zero => rfl
  | succ f ih =>
    unfold drainGoFast drainGo
    split
    · rfl
    · split
      · rfl
      · rw [ih]; simp

def drainFast (r : BR) : List UInt8 × IoKind := drainGoFast (r.inner.rest.length + 2) r []

@[csimp] theorem drain_eq_fast : @drain = @drainFast := by
  funext r; unfold drain drainFast; rw [drainGoFast_eq]; rfl


def mkChunked (chunks : List (List UInt8)) (complete : Bool) : Chunked :=
  match chunks with
  | [] => ⟨[], [], complete⟩
  | h :: t => ⟨h, t, complete⟩

/-- `RefNal::rbsp_bytes()`: skip the one-byte header, window 128 -/
def rbspBytes (chunks : List (List UInt8)) (complete : Bool) : BR := ⟨mkChunked chunks complete, .skip 1, 0, 128⟩

def kindOf : IoKind → Bits.IoKind
  | .eof => .eof | .wouldBlock => .wouldBlock | .invalidData => .invalidData

def bitsOfByte (b : UInt8) : List Bool :=
  let v := b.toNat
  [v / 128 % 2 == 1, v / 64 % 2 == 1, v / 32 % 2 == 1, v / 16 % 2 == 1, v / 8 % 2 == 1, v / 4 % 2 == 1, v / 2 % 2 == 1, v % 2 == 1]

def bitsOfBytes (bs : List UInt8) : List Bool := bs.flatMap bitsOfByte

theorem bitsOfBytes_append (a b : List UInt8) : bitsOfBytes (a ++ b) = bitsOfBytes a ++ bitsOfBytes b := by
  simp [bitsOfBytes]

/-- `RefNal::rbsp_bits()` as the parsers see it -/
def srcOfNal (chunks : List (List UInt8)) (complete : Bool) : Bits.Src :=
  let d := drain (rbspBytes chunks complete)
  ⟨bitsOfBytes d.1, kindOf d.2⟩

/-- a contiguous byte slice used directly as RBSP (`BitReader::new(&[u8])`) -/
def srcOfBytes (bs : List UInt8) : Bits.Src := ⟨bitsOfBytes bs, .eof⟩

end NalSrc
