import H264.Codes
import H264.ParseAttr
/-! The two simp sets over the rules of `Codes.lean` (explained there, at `After`): `parse_iff`, conditions behind the
continuation, and `parse_hyp`, conditions in front. The guard rule goes before the plain `if` rule. -/
namespace Bits

attribute [parse_iff] after_pure after_ite after_readBits after_readUe after_readSe after_readBool
attribute [parse_iff high] after_guard
attribute [parse_hyp] after_pure after_fail after_ite after_readBool after_readBits_hyp after_readUe_hyp
  after_readSe_hyp
attribute [parse_hyp high] after_guard_hyp

end Bits
