import H264.AnnexBL0
namespace AnnexB
open St

def bytesEv (l : List UInt8) : List Ev := l.map Ev.byte

/-- the three kinds of byte the reader tells apart -/
theorem byte_cases (b : UInt8) : b = 0 ∨ b = 1 ∨ b ≠ 0 ∧ b ≠ 1 := by
  by_cases h0 : b = 0
  · exact .inl h0
  · by_cases h1 : b = 1
    · exact .inr (.inl h1)
    · exact .inr (.inr ⟨h0, h1⟩)

/-- loop invariant of `push` after reading `done`: the window (fake zeros, then the bytes read since
`from_`) is `C` followed by the `bt` held-back zeros, where `C` = bytes of the open unit that `run` has
already committed but that are not yet handed to the handler. (`fs = some (fake, from_)`: a unit is open, and what of
it has not been handed over is `fake` zeros carried over from the previous push, then `buf[from_..]`.) -/
def LoopInv (done : List UInt8) (st : St) (fs : Option (Nat × Nat)) (C : List UInt8) : Prop :=
  match backtrack st with
  | none => fs = none ∧ C = []
  | some bt => ∃ fake from_, fs = some (fake, from_) ∧ from_ ≤ done.length ∧
      zeros fake ++ done.drop from_ = C ++ zeros bt ∧ (C = [] ∨ from_ + bt < done.length)

theorem events_append (a b : List Call) : events (a ++ b) = events a ++ events b := by
  simp [events]

theorem zeros_succ (n : Nat) : zeros (n+1) = zeros n ++ [0] := by
  simp [zeros, List.replicate_succ']

theorem run_cons (st : St) (b : UInt8) (rest : List UInt8) :
    run st (b :: rest) = ((run (step st b).1 rest).1, (step st b).2 ++ (run (step st b).1 rest).2) := rfl

/-- what `maybe_emit` hands out is exactly the committed bytes -/
theorem maybeEmit_events {buf done rest : List UInt8} {st fs C bt} (isEnd : Bool) (h : LoopInv done st fs C)
    (hbt : backtrack st = some bt) (hbuf : buf = done ++ rest) :
    events (maybeEmit buf fs done.length bt isEnd) = bytesEv C ++ (if isEnd then [Ev.endUnit] else []) := by
  unfold LoopInv at h; rw [hbt] at h
  obtain ⟨fake, from_, rfl, hf, hW, hC⟩ := h
  unfold maybeEmit
  by_cases hlt : from_ + bt < done.length
  · -- cut the window `bt` bytes before its end: the left part is `C`
    have hC' : zeros fake ++ (buf.take (done.length - bt)).drop from_ = C := by
      rw [hbuf, List.take_append_of_le_length (by omega), List.drop_take]
      rw [← List.take_append_drop (done.length - bt - from_) (done.drop from_), ← List.append_assoc] at hW
      exact (List.append_inj' hW (by simp [zeros]; omega)).1
    cases fake <;> simp [hlt, events, Call.events, bytesEv, zeros, ← hC']
  · have hCnil : C = [] := hC.resolve_right hlt
    cases isEnd <;> simp [hlt, hCnil, events, Call.events, bytesEv]

/-- appending one byte to the window: `E` gets committed, `bt'` zeros stay held back -/
theorem LoopInv.extend {done st st' fs C bt bt' E} {b : UInt8} (h : LoopInv done st fs C)
    (hbt : backtrack st = some bt) (hbt' : backtrack st' = some bt')
    (hE : E ++ zeros bt' = zeros bt ++ [b]) (hE' : E = [] ∨ bt' = 0) :
    LoopInv (done ++ [b]) st' fs (C ++ E) := by
  unfold LoopInv at h ⊢; rw [hbt] at h; rw [hbt']
  obtain ⟨fake, from_, rfl, hf, hW, hC⟩ := h
  have hlen := congrArg List.length hE
  simp [zeros] at hlen
  refine ⟨fake, from_, rfl, by simp; omega, ?_, ?_⟩
  · rw [List.drop_append_of_le_length hf, ← List.append_assoc, hW, List.append_assoc, ← hE,
      List.append_assoc]
  · -- by lengths: if something is committed (`C ++ E ≠ []`), then either `C` was non-empty before, or `E` is and `bt' = 0`
    rw [← List.length_eq_zero_iff] at hC hE' ⊢
    simp only [List.length_append, List.length_singleton]; omega

/-- nothing pending at position `i`: outside a unit, or in a unit that starts at `i` -/
def Fresh (i : Nat) (st : St) (fs : Option (Nat × Nat)) : Prop :=
  backtrack st = none ∧ fs = none ∨ backtrack st = some 0 ∧ fs = some (0, i)

theorem Fresh.inv {done st fs} (b : UInt8) (h : Fresh (done.length + 1) st fs) :
    LoopInv (done ++ [b]) st fs [] := by
  unfold LoopInv
  rcases h with ⟨h, rfl⟩ | ⟨h, rfl⟩ <;> rw [h]
  · exact ⟨rfl, rfl⟩
  · exact ⟨0, done.length + 1, rfl, by simp, by simp [zeros], .inl rfl⟩

/-- what one loop iteration does to `fs` and which calls it makes; the next state is `(step st b).1` -/
def pushIter (buf : List UInt8) (i : Nat) (st : St) (fs : Option (Nat × Nat)) (b : UInt8) :
    Option (Nat × Nat) × List Call :=
  match st with
  | start2 => (if b = 1 then some (0, i+1) else fs, [])
  | inUnit2 => if b = 0 then (none, maybeEmit buf fs i 2 true)
               else if b = 1 then (some (0, i+1), maybeEmit buf fs i 2 true) else (fs, [])
  | _ => (fs, [])

theorem pushGo_cons (buf rest : List UInt8) (b : UInt8) (i : Nat) (st : St) (fs : Option (Nat × Nat))
    (calls : List Call) :
    pushGo buf (b :: rest) i st fs calls =
      pushGo buf rest (i+1) (step st b).1 (pushIter buf i st fs b).1
        (calls ++ (pushIter buf i st fs b).2) := by
  rcases byte_cases b with rfl | rfl | ⟨h0, h1⟩ <;> cases st <;> simp [*, pushGo, step, pushIter]

/-- outside a unit nothing is emitted, and afterwards nothing is pending -/
theorem pushIter_outside (buf done : List UInt8) (b : UInt8) {st} (h : backtrack st = none) :
    (step st b).2 = [] ∧ (pushIter buf done.length st none b).2 = [] ∧
      Fresh (done.length + 1) (step st b).1 (pushIter buf done.length st none b).1 := by
  cases st <;> simp [backtrack] at h <;> rcases byte_cases b with rfl | rfl | ⟨h0, h1⟩ <;>
    simp [*, step, pushIter, backtrack, Fresh]

/-- inside a unit with `bt` zeros held back: `00 00 0{0,1}` ends it (and emits); otherwise a `0` is
held back and any other byte commits the held-back zeros and itself -/
theorem pushIter_inside (buf done : List UInt8) (fs : Option (Nat × Nat)) (b : UInt8) {st bt}
    (h : backtrack st = some bt) :
    (bt = 2 ∧ (step st b).2 = [.endUnit] ∧
      (pushIter buf done.length st fs b).2 = maybeEmit buf fs done.length 2 true ∧
      Fresh (done.length + 1) (step st b).1 (pushIter buf done.length st fs b).1) ∨
    (pushIter buf done.length st fs b = (fs, []) ∧
      ((b = 0 ∧ (step st b).2 = [] ∧ backtrack (step st b).1 = some (bt + 1)) ∨
       (b ≠ 0 ∧ (step st b).2 = bytesEv (zeros bt ++ [b]) ∧ backtrack (step st b).1 = some 0))) := by
  cases st <;> simp [backtrack] at h <;> subst h <;> rcases byte_cases b with rfl | rfl | ⟨h0, h1⟩ <;>
    simp [*, step, pushIter, backtrack, Fresh, zeros, bytesEv]

/-- one iteration keeps the invariant and emits-or-defers exactly what `step` emits -/
theorem pushIter_inv (buf rest : List UInt8) (b : UInt8) {done st fs C} (h : LoopInv done st fs C)
    (hbuf : buf = done ++ rest) :
    ∃ C1, LoopInv (done ++ [b]) (step st b).1 (pushIter buf done.length st fs b).1 C1 ∧
      events (pushIter buf done.length st fs b).2 ++ bytesEv C1 = bytesEv C ++ (step st b).2 := by
  cases hbt : backtrack st with
  | none =>
    unfold LoopInv at h; rw [hbt] at h; obtain ⟨rfl, rfl⟩ := h
    obtain ⟨h1, h2, h3⟩ := pushIter_outside buf done b hbt
    exact ⟨[], h3.inv b, by simp [h1, h2, events, bytesEv]⟩
  | some bt =>
    rcases pushIter_inside buf done fs b hbt with
      ⟨rfl, h1, h2, h3⟩ | ⟨hr, ⟨rfl, h1, h2⟩ | ⟨_, h1, h2⟩⟩
    · exact ⟨[], h3.inv b, by rw [h1, h2, maybeEmit_events true h hbt hbuf]; simp [bytesEv]⟩
    · rw [hr]; exact ⟨C ++ [], h.extend hbt h2 (by simp [zeros_succ]) (.inl rfl), by simp [h1, events]⟩
    · rw [hr]; exact ⟨C ++ (zeros bt ++ [b]), h.extend hbt h2 (by simp [zeros]) (.inr rfl),
        by simp [h1, events, bytesEv]⟩

theorem pushGo_spec (buf rest : List UInt8) : ∀ (done : List UInt8) (st fs calls C),
    buf = done ++ rest → LoopInv done st fs C →
    ∃ fs' calls' C', pushGo buf rest done.length st fs calls = ((run st rest).1, fs', calls') ∧
      LoopInv buf (run st rest).1 fs' C' ∧
      events calls' ++ bytesEv C' = events calls ++ bytesEv C ++ (run st rest).2 := by
  induction rest with
  | nil =>
    intro done st fs calls C hb h
    exact ⟨fs, calls, C, rfl, by simpa [hb, run] using h, by simp [run]⟩
  | cons b rest ih =>
    intro done st fs calls C hb h
    obtain ⟨C1, h1, h2⟩ := pushIter_inv buf (b :: rest) b h hb
    obtain ⟨fs', calls', C', h3, h4, h5⟩ :=
      ih (done ++ [b]) _ _ (calls ++ (pushIter buf done.length st fs b).2) C1 (by simp [hb]) h1
    rw [List.length_append, List.length_singleton] at h3
    refine ⟨fs', calls', C', by rw [pushGo_cons, h3, run_cons], h4, ?_⟩
    rw [h5, events_append, run_cons, List.append_assoc (events calls), h2]; simp only [List.append_assoc]

/-- C01 core: one `push` hands the handler exactly the events of the byte-level machine -/
theorem push_refines_run (st : St) (buf : List UInt8) :
    (push st buf).1 = (run st buf).1 ∧ events (push st buf).2 = (run st buf).2 := by
  have hinit : LoopInv [] st ((backtrack st).map fun b => (b, 0)) [] := by
    unfold LoopInv; split <;> simp [*, and_assoc]
  obtain ⟨fs', calls', C', hp, hinv, hev⟩ := pushGo_spec buf buf [] st _ [] [] rfl hinit
  simp only [List.length_nil] at hp
  simp only [push, hp]
  cases hbt : backtrack (run st buf).1 with
  | none =>
    unfold LoopInv at hinv; rw [hbt] at hinv; obtain ⟨rfl, rfl⟩ := hinv
    simpa [events, bytesEv] using hev
  | some bt =>
    refine ⟨rfl, ?_⟩
    rw [events_append, maybeEmit_events false hinv hbt (List.append_nil buf).symm]
    simpa [events, bytesEv] using hev

#print axioms push_refines_run
end AnnexB
