import H264.SliceStd
/-! The two spots where the slice-header parser is many-to-one on ref_pic_list_modification: an empty list may be coded
as flag 0 or as flag 1 followed at once by the terminator. The converse statements are up to this choice. -/
namespace Slice
open Bits

/-- `longForm` chooses flag 1 for the empty list; a non-empty list has the one coding -/
def encModListAlt (ops : List ModOp) (longForm : Bool) : List Bool :=
  if ops = [] ∧ longForm = false then encBool false else encBool true ++ (ops.map encModOp).flatten ++ encUe 3

theorem encModListAlt_false (ops : List ModOp) : encModListAlt ops false = encModList ops := by
  simp [encModListAlt, encModList]

/-- which of the two codings of an empty ref_pic_list_modification list was used (list 0, list 1) -/
structure ModAlt where
  l0 : Bool := false
  l1 : Bool := false

def encRefPicListModsAlt (a : ModAlt) : RefPicListMods → List Bool
  | .I => []
  | .P x => encModListAlt x a.l0
  | .B x y => encModListAlt x a.l0 ++ encModListAlt y a.l1

theorem encRefPicListModsAlt_false (m : RefPicListMods) :
    encRefPicListModsAlt ⟨false, false⟩ m = encRefPicListMods m := by
  cases m <;> simp [encRefPicListModsAlt, encRefPicListMods, encModListAlt_false]

end Slice
