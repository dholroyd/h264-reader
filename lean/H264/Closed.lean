import H264.Bits
import H264.ClosedAttr
/-! Properties that every model parser inherits from the primitives it is built from.

The model parsers are `do`-blocks over `readBit`, `readUnary1`, `hasMore`, `finishRbsp`, `fail` of a non-panic error,
`if` and `match`. A `ClosedProp` is a property of parsers that holds of these and is preserved by `>>=`; each parser is
shown once to have every such property (`closed_…`, by walking its definition), and prefix-monotonicity (`Mono`, C17) and
panic-freedom (`NoPanic`, C03) are the two instances. -/
namespace Bits

def Err.isPanic : Err → Bool | .panic _ => true | _ => false

structure ClosedProp where
  holds : {α : Type} → P α → Prop
  pure : ∀ {α} (a : α), holds (Pure.pure a : P α)
  bind : ∀ {α β} {p : P α} {f : α → P β}, holds p → (∀ a, holds (f a)) → holds (p >>= f)
  fail : ∀ {α} (e : Err), e.isPanic = false → holds (fail e : P α)
  readBit : ∀ name, holds (readBit name)
  readUnary1 : ∀ name, holds (readUnary1 name)
  hasMore : ∀ name, holds (hasMore name)
  finishRbsp : holds finishRbsp

theorem ClosedProp.ite (K : ClosedProp) {α} (c : Prop) [Decidable c] {p q : P α} (hp : K.holds p) (hq : K.holds q) :
    K.holds (if c then p else q) := by split <;> assumption

attribute [closed] ClosedProp.pure ClosedProp.readBit ClosedProp.readUnary1 ClosedProp.hasMore ClosedProp.finishRbsp

/-- Walks a parser's definition: `>>=` by `ClosedProp.bind` (at reducible transparency, so that a named sub-parser is
not opened; `intro` for the continuation), `if` by `ClosedProp.ite`, `match` by `split`, and each leaf by its `@[closed]`
lemma or a hypothesis, which `simp` finds by the leaf's head symbol (trying the lemmas one by one with `exact` sends the
unifier through both definitions at every miss); `fail e` needs `e.isPanic = false`, which holds by `rfl`. A leaf
without a lemma is left as the goal. -/
macro "closed" : tactic => `(tactic| repeat' first
  | with_reducible apply ClosedProp.bind | intro _ | with_reducible apply ClosedProp.ite | split
  | simp only [closed, *]
  | ((with_reducible apply ClosedProp.fail); rfl))

variable (K : ClosedProp)

@[closed] theorem closed_readBits (name n) : K.holds (readBits name n) := by
  induction n with
  | zero => exact K.pure 0
  | succ n ih => unfold readBits; closed
@[closed] theorem closed_readUe (name) : K.holds (readUe name) := by unfold readUe; closed
@[closed] theorem closed_readSe (name) : K.holds (readSe name) := by unfold readSe; closed
@[closed] theorem closed_readBool (name) : K.holds (readBool name) := K.readBit name

end Bits
