import H264.RbspFill
namespace Rbsp

theorem read_spec (r : BR) (hinv : Inv r) (n : Nat) :
    Inv (read r n).1 ∧ (read r n).1.inner.complete = r.inner.complete ∧
    (match (read r n).2 with
     | .ok bs => bs = (view r).1.take bs.length ∧ bs.length ≤ n ∧
          view (read r n).1 = ((view r).1.drop bs.length, (view r).2) ∧
          (bs = [] → n = 0 ∨ (view r = ([], true) ∧ r.inner.complete = true))
     | .error .wouldBlock => view (read r n).1 = view r ∧ r.inner.complete = false ∧ view r = ([], true)
     | .error .invalidData => view (read r n).1 = view r ∧ (view r).2 = false
     | .error .eof => False) := by
  have hs := fillBuf_spec r hinv
  unfold read
  generalize fillBuf r = x at hs ⊢
  obtain ⟨r', k | chunk⟩ := x <;> dsimp only at hs ⊢ <;> obtain ⟨f1, f2, f3, _, f5⟩ := hs
  · cases k
    · exact absurd f5 id
    · exact ⟨f1, f3, f2, f5.1, f5.2⟩
    · exact ⟨f1, f3, f2, f5⟩
  · obtain ⟨hbuf, ⟨t, ht⟩, hemp⟩ := f5
    have hamt : min n chunk.length ≤ r'.i := by rw [hbuf, List.length_take]; omega
    obtain ⟨c1, c2, c3, _⟩ := consume_spec r' f1 (min n chunk.length) hamt
    have hlen : (chunk.take (min n chunk.length)).length = min n chunk.length := by
      rw [List.length_take]; omega
    refine ⟨c1, c3.trans f3, ?_, ?_, ?_, fun h => ?_⟩
    · rw [hlen, ← ht, List.take_append_of_le_length (by omega)]
    · rw [hlen]; omega
    · rw [c2, f2, hlen]
    · have h0 : min n chunk.length = 0 := by rw [← hlen, h]; rfl
      by_cases hn : n = 0
      · exact .inl hn
      · exact .inr (hemp (List.length_eq_zero_iff.mp (by omega)))

/-! ### every program of reader operations delivers a prefix of the view, in order, exactly once -/

inductive Op | fill | consume (k : Nat) | read (n : Nat)

/-- run a program; `d` accumulates consumed bytes. A `consume k` outside the `BufRead`
contract (`k > i`) stops the run (Rust would panic: it is the caller's obligation). -/
def runOps : BR → List Op → List UInt8 → BR × List UInt8
  | r, [], d => (r, d)
  | r, .fill :: ops, d => runOps (fillBuf r).1 ops d
  | r, .consume k :: ops, d =>
      if k ≤ r.i then runOps (consume r k) ops (d ++ r.inner.cur.take k) else (r, d)
  | r, .read n :: ops, d =>
      match (read r n).2 with
      | .ok bs => runOps (read r n).1 ops (d ++ bs)
      | .error _ => runOps (read r n).1 ops d

theorem runOps_spec (r : BR) (hinv : Inv r) (ops : List Op) (d : List UInt8) :
    Inv (runOps r ops d).1 ∧
    (runOps r ops d).2 ++ (view (runOps r ops d).1).1 = d ++ (view r).1 ∧
    (view (runOps r ops d).1).2 = (view r).2 := by
  induction ops generalizing r d with
  | nil => simp [runOps, hinv]
  | cons op ops ih =>
    cases op with
    | fill =>
      obtain ⟨f1, f2, _⟩ := fillBuf_spec r hinv
      rw [← f2]
      exact ih _ f1 d
    | consume k =>
      simp only [runOps]
      by_cases hk : k ≤ r.i
      · rw [if_pos hk]
        obtain ⟨c1, c2, _⟩ := consume_spec r hinv k hk
        obtain ⟨i1, i2, i3⟩ := ih (consume r k) c1 (d ++ r.inner.cur.take k)
        refine ⟨i1, ?_, by rw [i3, c2]⟩
        have : r.inner.cur.take k = (view r).1.take k := by
          simp only [view]
          rw [List.take_append_of_le_length (by rw [List.length_take]; have := hinv.2.1; omega), List.take_take]
          congr 1; omega
        rw [i2, c2, List.append_assoc, this, List.take_append_drop]
      · simp [hk, hinv]
    | read n =>
      have hs := read_spec r hinv n
      simp only [runOps]
      generalize read r n = x at hs ⊢
      obtain ⟨r', k | bs⟩ := x <;> dsimp only at hs ⊢ <;> obtain ⟨r1, _, r3⟩ := hs
      · have hv : view r' = view r := by cases k; exact absurd r3 id; exact r3.1; exact r3.1
        rw [← hv]
        exact ih r' r1 d
      · obtain ⟨h1, _, h3, _⟩ := r3
        obtain ⟨i1, i2, i3⟩ := ih r' r1 (d ++ bs)
        refine ⟨i1, ?_, by rw [i3, h3]⟩
        rw [i2, h3, List.append_assoc]
        congr 1
        have := List.take_append_drop bs.length (view r).1
        rwa [← h1] at this

#print axioms runOps_spec
end Rbsp
