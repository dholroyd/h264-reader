import H264.C07
import H264.PicTiming
import H264.SpsRangesAll
import H264.Pps
/-! # Machine-arithmetic ledger (C03, "never overflows integer arithmetic")

The parser models compute on ℕ/ℤ. For every arithmetic site of the Rust parsers whose operands come from parsed
values, this file writes the *machine* expression (fixed width, wrap-around made explicit with `wrapU8`, `wrapU32`,
`wrapI32`, `wrapI64`, shifts with their width guard) and proves, under exactly the facts the parser has established at
that point, that

* no intermediate value leaves the range of its Rust type (so a build with overflow checks cannot trap there), and
* the wrapped result equals the unbounded expression the model uses (so wrapping and checked builds agree).

`golomb_to_signed` is in `C07.lean` (`golombToSignedRust_eq`). -/
namespace Overflow
open Bits

def wrapU8 (x : Int) : Int := x % 2^8
def wrapU32 (x : Int) : Int := x % 2^32
def wrapI64 (x : Int) : Int := ((x + 2^63) % 2^64) - 2^63

def FitsU8 (x : Int) : Prop := 0 ≤ x ∧ x < 2^8
def FitsU32 (x : Int) : Prop := 0 ≤ x ∧ x < 2^32
def FitsI32 (x : Int) : Prop := -(2^31) ≤ x ∧ x < 2^31
def FitsI64 (x : Int) : Prop := -(2^63) ≤ x ∧ x < 2^63

theorem wrapU8_id (x : Int) (h : FitsU8 x) : wrapU8 x = x := by unfold wrapU8 FitsU8 at *; omega
theorem wrapU32_id (x : Int) (h : FitsU32 x) : wrapU32 x = x := by unfold wrapU32 FitsU32 at *; omega
theorem wrapI64_id (x : Int) (h : FitsI64 x) : wrapI64 x = x := by unfold wrapI64 FitsI64 at *; omega

/-! ## rbsp.rs `read_ue`: `(1 << count) - 1 + val`, `count ≤ 31`, `val < 2^count` -/

/-- the shift amount is below the width, the difference cannot underflow, the sum stays a `u32`, and its value is at
most 2³²−2 (so every later `x + 1` on a parsed `ue(v)` fits) -/
theorem ue_assembly_fits (count val : Nat) (hc : count ≤ 31) (hv : val < 2^count) :
    count < 32 ∧ 1 ≤ 2^count ∧ FitsU32 ((2^count : Nat) : Int) ∧ FitsU32 (((2^count - 1 + val : Nat) : Int)) ∧
    2^count - 1 + val ≤ 2^32 - 2 := by
  have h1 : 2^count ≤ 2^31 := Nat.pow_le_pow_right (by omega) hc
  have h0 : 1 ≤ 2^count := Nat.one_le_two_pow
  unfold FitsU32
  exact ⟨by omega, h0, by omega, by omega, by omega⟩

/-! ## sps.rs `fill_scaling_list`: `(last_scale.get() as i32 + delta_scale + 256) % 256`, then `as u8` -/

/-- with `1 ≤ last ≤ 255` (a `NonZeroU8`) and the range check `-128 ≤ delta ≤ 127` already passed, both `i32` sums
fit, the operand of `%` is positive (so Rust's truncating `%` is the mathematical one) and the `as u8` cast is
lossless -/
theorem next_scale_fits (last : Nat) (delta : Int) (hl : 1 ≤ last ∧ last ≤ 255) (hd : ¬ (delta < -128 ∨ delta > 127)) :
    FitsI32 ((last : Int) + delta) ∧ FitsI32 ((last : Int) + delta + 256) ∧ 0 < (last : Int) + delta + 256 ∧
    FitsU8 (((last : Int) + delta + 256) % 256) ∧
    ((((last : Int) + delta + 256).toNat % 256 : Nat) : Int) = ((last : Int) + delta + 256) % 256 := by
  unfold FitsI32 FitsU8
  exact ⟨by omega, by omega, by omega, by omega, by omega⟩

/-! ## pps.rs: `6 * bit_depth_luma_minus8` in `u8`, `-(26 + i32::from(qp_bd_offset_y))` -/

/-- for every SPS the parser accepts, the `u8` product and the `i32` negation are exact -/
theorem qp_bd_offset_fits (s s' : Src) (v : Sps.Sps) (h : Sps.parseSps s = .ok (v, s')) :
    FitsU8 (6 * (v.chromaInfo.bitDepthLumaMinus8 : Int)) ∧
    FitsI32 (26 + 6 * (v.chromaInfo.bitDepthLumaMinus8 : Int)) ∧
    FitsI32 (-(26 + 6 * (v.chromaInfo.bitDepthLumaMinus8 : Int))) := by
  have hb := (Sps.parseSps_ranges_all s s' v h).2.1
  unfold FitsU8 FitsI32
  omega

/-! ## slice/mod.rs: `26 + i64::from(pic_init_qs_minus26) + i64::from(slice_qs_delta)` -/

theorem qs_y_fits (a b : Int) (ha : FitsI32 a) (hb : FitsI32 b) :
    FitsI64 (26 + a) ∧ FitsI64 (26 + a + b) ∧ wrapI64 (26 + a + b) = 26 + a + b := by
  unfold FitsI32 at ha hb
  have h2 : FitsI64 (26 + a + b) := by unfold FitsI64; omega
  exact ⟨by unfold FitsI64; omega, h2, wrapI64_id _ h2⟩

/-- after the range check `0 ≤ qs_y ≤ 51` the cast `qs_y as u32` is lossless -/
theorem qs_cast_lossless (q : Int) (h : 0 ≤ q ∧ q ≤ 51) : FitsU32 q ∧ wrapU32 q = q := by
  have : FitsU32 q := by unfold FitsU32; omega
  exact ⟨this, wrapU32_id _ this⟩

/-! ## pps.rs: `sps.pic_size_in_map_units() - 1` -/

/-- the saturating product of two values `≥ 1` is `≥ 1`: the subtraction cannot underflow, for any SPS value at all -/
theorem pic_size_pos (s : Sps.Sps) : 1 ≤ Pps.picSizeInMapUnits s := by
  unfold Pps.picSizeInMapUnits
  have : 1 ≤ (s.picWidthInMbsMinus1 + 1) * (s.picHeightInMapUnitsMinus1 + 1) := Nat.mul_pos (by omega) (by omega)
  omega

/-- `x + 1` on the two dimensions fits for every accepted SPS (the helpers `pic_width_in_mbs()` /
`pic_height_in_map_units()`) -/
theorem dims_plus_one_fit (s s' : Src) (v : Sps.Sps) (h : Sps.parseSps s = .ok (v, s')) :
    FitsU32 ((v.picWidthInMbsMinus1 : Int) + 1) ∧ FitsU32 ((v.picHeightInMapUnitsMinus1 : Int) + 1) := by
  obtain ⟨_, _, _, _, _, _, _, hw, hh, _⟩ := (Sps.parseSps_ranges_all s s' v h).1
  unfold Sps.Ue at hw hh
  unfold FitsU32
  omega

/-- `log2_max_frame_num_minus4 + 4` in `u8` -/
theorem log2_frame_num_fits (s s' : Src) (v : Sps.Sps) (h : Sps.parseSps s = .ok (v, s')) :
    FitsU8 ((v.log2MaxFrameNumMinus4 : Int) + 4) := by
  obtain ⟨_, _, _, _, hl, _⟩ := (Sps.parseSps_ranges_all s s' v h).1
  unfold FitsU8
  omega

/-! ## sei/pic_timing.rs: `let shift = 32 - u32::from(len); ((raw << shift) as i32) >> shift` -/

/-- the machine expression: `u32` left shift (wrapping off the top), reinterpretation as `i32`, arithmetic right
shift (= floor division by 2^shift) -/
def timeOffsetRust (len raw : Nat) : Int :=
  let shift := 32 - len
  let shl : Int := wrapU32 ((raw : Int) * 2^shift)
  let asI32 : Int := wrapI32 shl
  asI32 / ((2^shift : Nat) : Int)

/-- the expression is the two's-complement value of the `len`-bit field, for every width up to 32 -/
theorem timeOffsetRust_signExtend (len raw : Nat) (h1 : 1 ≤ len) (h32 : len ≤ 32) (hr : raw < 2^len) :
    timeOffsetRust len raw = SeiPayload.signExtend len raw := by
  -- with `S = 2^(32-len)`, `P = 2^(len-1)` and `Q = 2^len`: the two wraps leave the field's value times `S`
  have hQ : (2:Nat)^len = 2 * 2^(len - 1) := by rw [← Nat.pow_succ']; congr 1; omega
  have hQS : 2^len * 2^(32 - len) = 2^32 := by rw [← Nat.pow_add]; congr 1; omega
  have hS : 0 < 2^(32 - len) := Nat.two_pow_pos _
  unfold timeOffsetRust SeiPayload.signExtend
  dsimp only
  rw [show (2:Int)^(32 - len) = (2^(32 - len) : Nat) by norm_cast, show (2:Int)^len = (2^len : Nat) by norm_cast]
  generalize 2^(32 - len) = S at *
  generalize 2^(len - 1) = P at *
  generalize 2^len = Q at *
  have h : wrapI32 (wrapU32 (raw * S)) = (if raw < P then (raw : Int) else raw - Q) * S := by
    have h1 : raw < P → raw * S < P * S := fun h => Nat.mul_lt_mul_of_pos_right h hS
    have h2 : P ≤ raw → P * S ≤ raw * S := fun h => Nat.mul_le_mul_right S h
    have h3 : raw * S < Q * S := Nat.mul_lt_mul_of_pos_right hr hS
    have h4 : Q * S = 2 * (P * S) := by rw [hQ, Nat.mul_assoc]
    unfold wrapI32 wrapU32
    split
    · omega
    · rw [Int.sub_mul]; omega
  rw [h, Int.mul_ediv_cancel _ (by omega)]

/-- `1 ≤ len ≤ 31`… in fact up to 32: the shift amounts stay below the width (`32 - len < 32`, no underflow), and the
expression is the two's-complement value of the `len`-bit field — for every `raw` the `len`-bit read can return -/
theorem timeOffsetRust_eq (len raw : Nat) (hl : 1 ≤ len ∧ len ≤ 31) (hr : raw < 2^len) :
    32 - len < 32 ∧ len ≤ 32 ∧ timeOffsetRust len raw = SeiPayload.signExtend len raw :=
  ⟨by omega, by omega, timeOffsetRust_signExtend len raw hl.1 (by omega) hr⟩

/-! ## sps.rs HRD: `cpb_cnt_minus1 + 1` after `cpb_cnt_minus1 > 31` was rejected; slice: `num_ref_idx + 1 ≤ 32` -/
theorem small_plus_one_fits (x : Nat) (h : ¬ x > 31) : FitsU32 ((x : Int) + 1) ∧ x + 1 ≤ 32 := by
  unfold FitsU32; omega

/-! ## avcc.rs: `len + 1`, `len + 2`, `len + sps_len` in `usize` (64-bit): every term is a position already checked to
be inside the buffer plus at most 65535 -/
theorem avcc_index_fits (len n bufLen : Nat) (hlen : len ≤ bufLen) (hbuf : bufLen < 2^63) (hn : n ≤ 65535) :
    len + n < 2^64 := by omega

#print axioms timeOffsetRust_eq
#print axioms next_scale_fits
#print axioms qp_bd_offset_fits
end Overflow
