import H264.Bits
/-! C14: the three end-of-data predicates. Their successful runs on any source (`hasMore_iff`, `finishRbsp_iff`), which
is what the parsers' statements use, and their exact outcome on every bit string of a complete RBSP. -/
namespace Bits

def allZero (l : List Bool) : Bool := !(l.any id)

/-- `finish_rbsp`: the complete outcome table -/
theorem finishRbsp_outcome (bits : List Bool) :
    finishRbsp ⟨bits, .eof⟩ =
      match bits with
      | [] => .error (.io "finish" .eof)
      | true :: rest => if allZero rest then .ok ((), ⟨[], .eof⟩) else .error .remaining
      | false :: rest => if allZero rest then .error (.io "finish" .eof) else .error .remaining := by
  unfold finishRbsp allZero
  cases bits with
  | nil => rfl
  | cons b rest => cases b <;> cases h : rest.any id <;> simp [h]

/-- `finish_sei_payload`: additionally succeeds when nothing is left -/
theorem finishSei_outcome (bits : List Bool) :
    finishSei ⟨bits, .eof⟩ =
      match bits with
      | [] => .ok ((), ⟨[], .eof⟩)
      | true :: rest => if allZero rest then .ok ((), ⟨[], .eof⟩) else .error .remaining
      | false :: _ => .error .remaining := by
  unfold finishSei allZero
  cases bits with
  | nil => rfl
  | cons b rest => cases b <;> cases h : rest.any id <;> simp [h]

/-- `has_more_rbsp_data`: true exactly when a 1 bit lies strictly after the current bit; never moves -/
theorem hasMore_outcome (name) (bits : List Bool) :
    hasMore name ⟨bits, .eof⟩ = .ok (!(allZero (bits.drop 1)), ⟨bits, .eof⟩) := by
  unfold hasMore allZero
  cases bits with
  | nil => simp
  | cons b rest => cases h : rest.any id <;> simp [h]

theorem any_id_eq_false (l : List Bool) : l.any id = false ↔ ∃ z, l = List.replicate z false := by
  constructor
  · intro h
    exact ⟨l.length, List.eq_replicate_iff.2 ⟨rfl, fun b hb => by simpa using List.any_eq_false.1 h b hb⟩⟩
  · rintro ⟨z, rfl⟩; simp

theorem hasMore_iff (name) (s s' : Src) (b : Bool) :
    hasMore name s = .ok (b, s') ↔
      s' = s ∧ if (s.bits.drop 1).any id then b = true else b = false ∧ s.fin = .eof := by
  obtain ⟨bits, fin⟩ := s
  rcases bits with _ | ⟨x, rest⟩
  · by_cases hf : fin = .eof <;> simp [hasMore, hf, eq_comm, and_comm]
  · by_cases h : rest.any id = true <;> by_cases hf : fin = .eof <;> simp [hasMore, h, hf, eq_comm, and_comm]

theorem finishRbsp_iff (s s' : Src) :
    finishRbsp s = .ok ((), s') ↔
      (∃ z, s.bits = true :: List.replicate z false) ∧ s.fin = .eof ∧ s' = ⟨[], .eof⟩ := by
  obtain ⟨bits, fin⟩ := s
  rcases bits with _ | ⟨_ | _, rest⟩
  · simp [finishRbsp]
  · by_cases h : rest.any id = true <;> simp [finishRbsp, h]
  · by_cases h : rest.any id = true <;> by_cases hf : fin = .eof <;>
      simp [finishRbsp, h, hf, ← any_id_eq_false, eq_comm]

/-- **C14**: the query is true exactly when a 1 bit lies strictly after the current bit; it never moves the reader -/
theorem hasMore_spec (name) (s : Src) (h : s.fin = .eof) :
    hasMore name s = .ok (decide (∃ b ∈ s.bits.drop 1, b = true), s) := by
  rw [hasMore_iff]
  by_cases ha : (s.bits.drop 1).any id = true <;> simp_all

/-- **C14**: finishing succeeds exactly on `1 0*` -/
theorem finishRbsp_ok_iff (s : Src) (h : s.fin = .eof) :
    (∃ r, finishRbsp s = .ok r) ↔ ∃ n, s.bits = true :: List.replicate n false := by
  constructor
  · rintro ⟨⟨⟨⟩, s'⟩, hr⟩; exact ((finishRbsp_iff s s').1 hr).1
  · intro hz; exact ⟨_, (finishRbsp_iff s ⟨[], .eof⟩).2 ⟨hz, h, rfl⟩⟩

theorem finishRbsp_needs_eof (s : Src) (h : s.fin ≠ .eof) : ∀ r, finishRbsp s ≠ .ok r :=
  fun ⟨⟨⟩, s'⟩ hr => h ((finishRbsp_iff s s').1 hr).2.1

#print axioms finishSei_outcome
#print axioms finishRbsp_ok_iff
end Bits
