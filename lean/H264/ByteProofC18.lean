import H264.ByteProof
/-! theorems of `ByteProof` that belong to C18 (one module per property: DESIGN.md 14.7) -/
namespace ByteProof


/-- the call shapes of the **real** reader on this whole domain (C18 read off the regenerated graph): in all 7 737 runs every
slice handed to the handler was non-empty and every call without slices ended a unit -/
theorem annexb_code_calls_shaped : ∀ row ∈ Generated.annexbShapeRows, ∀ x ∈ row, x = 1 := by
  decide +kernel

end ByteProof
