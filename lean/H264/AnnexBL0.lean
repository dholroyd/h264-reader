/-! Prototype: L0 model of `AnnexBReader::push`/`reset` (calls with slices) -/
namespace AnnexB

inductive St | start | start1 | start2 | inUnit | inUnit1 | inUnit2
deriving DecidableEq, Repr

/-- one call to `NalFragmentHandler::nal_fragment` -/
structure Call where
  bufs : List (List UInt8)
  fin : Bool
deriving DecidableEq, Repr

open St

def backtrack : St → Option Nat
  | inUnit => some 0 | inUnit1 => some 1 | inUnit2 => some 2 | _ => none

def zeros (n : Nat) : List UInt8 := List.replicate n 0

/-- `maybe_emit(buf, fake_and_start, end, backtrack, is_end)`; `buf` as list, slices via take/drop -/
def maybeEmit (buf : List UInt8) (fs : Option (Nat × Nat)) (end_ bt : Nat) (isEnd : Bool) : List Call :=
  match fs with
  | some (fake, from_) =>
    if from_ + bt < end_ then
      let body := (buf.take (end_ - bt)).drop from_
      if fake > 0 then [⟨[zeros fake, body], isEnd⟩] else [⟨[body], isEnd⟩]
    else if isEnd then [⟨[], true⟩] else []
  | none => []

/-- the `while i < buf.len()` loop, byte at a time (`memchr` skipping is not observable) -/
def pushGo (buf : List UInt8) : List UInt8 → Nat → St → Option (Nat × Nat) → List Call → St × Option (Nat × Nat) × List Call
  | [], _, st, fs, calls => (st, fs, calls)
  | b :: rest, i, st, fs, calls =>
    match st with
    | start => pushGo buf rest (i+1) (if b = 0 then start1 else start) fs calls
    | start1 => pushGo buf rest (i+1) (if b = 0 then start2 else start) fs calls
    | start2 =>
        if b = 0 then pushGo buf rest (i+1) start2 fs calls
        else if b = 1 then pushGo buf rest (i+1) inUnit (some (0, i+1)) calls
        else pushGo buf rest (i+1) start fs calls
    | inUnit => pushGo buf rest (i+1) (if b = 0 then inUnit1 else inUnit) fs calls
    | inUnit1 => pushGo buf rest (i+1) (if b = 0 then inUnit2 else inUnit) fs calls
    | inUnit2 =>
        if b = 0 then pushGo buf rest (i+1) start2 none (calls ++ maybeEmit buf fs i 2 true)
        else if b = 1 then pushGo buf rest (i+1) inUnit (some (0, i+1)) (calls ++ maybeEmit buf fs i 2 true)
        else pushGo buf rest (i+1) inUnit fs calls

def push (st : St) (buf : List UInt8) : St × List Call :=
  let r := pushGo buf buf 0 st ((backtrack st).map fun b => (b, 0)) []
  match backtrack r.1 with
  | some bt => (r.1, r.2.2 ++ maybeEmit buf r.2.1 buf.length bt false)
  | none => (r.1, r.2.2)

def reset (st : St) : St × List Call :=
  match backtrack st with
  | some 0 => (start, [⟨[], true⟩])
  | some bt => (start, [⟨[zeros bt], true⟩])
  | none => (start, [])

/-- property-level observation: bytes and end markers -/
inductive Ev | byte (b : UInt8) | endUnit
deriving DecidableEq, Repr

def Call.events (c : Call) : List Ev := c.bufs.flatten.map Ev.byte ++ (if c.fin then [Ev.endUnit] else [])
def events (cs : List Call) : List Ev := (cs.map Call.events).flatten

end AnnexB

namespace AnnexB
open St
/-- event-level machine -/
def step (s : St) (b : UInt8) : St × List Ev :=
  match s with
  | start   => if b = 0 then (start1, []) else (start, [])
  | start1  => if b = 0 then (start2, []) else (start, [])
  | start2  => if b = 0 then (start2, []) else if b = 1 then (inUnit, []) else (start, [])
  | inUnit  => if b = 0 then (inUnit1, []) else (inUnit, [.byte b])
  | inUnit1 => if b = 0 then (inUnit2, []) else (inUnit, [.byte 0, .byte b])
  | inUnit2 => if b = 0 then (start2, [.endUnit]) else if b = 1 then (inUnit, [.endUnit])
               else (inUnit, [.byte 0, .byte 0, .byte b])

def run (s : St) : List UInt8 → St × List Ev
  | [] => (s, [])
  | b :: bs => let (s1, e1) := step s b; let (s2, e2) := run s1 bs; (s2, e1 ++ e2)

end AnnexB
