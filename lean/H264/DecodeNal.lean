import H264.Fast
/-! The one-shot `decode_nal`: a first `fill_buf` that may return the whole payload (borrowed), else a drain loop -/
namespace Rbsp

/-- drain a reader with `fill_buf`/`consume(all)` until it reports the end or an error -/
def drainLoop : Nat → BR → List UInt8 → List UInt8 × Option IoKind
  | 0, _, acc => (acc, none)
  | fuel+1, r, acc =>
    match fillBuf r with
    | (_, .error k) => (acc, some k)
    | (r', .ok buf) => if buf = [] then (acc, none) else drainLoop fuel (consume r' buf.length) (acc ++ buf)

/-- the same loop with a reversed accumulator (linear time); the compiler uses it in place of `drainLoop` -/
def drainLoopFast : Nat → BR → List UInt8 → List UInt8 × Option IoKind
  | 0, _, ar => (ar.reverse, none)
  | fuel+1, r, ar =>
    match fillBuf r with
    | (_, .error k) => (ar.reverse, some k)
    | (r', .ok buf) => if buf = [] then (ar.reverse, none) else drainLoopFast fuel (consume r' buf.length) (buf.reverse ++ ar)

theorem drainLoopFast_eq (fuel : Nat) (r : BR) (ar : List UInt8) :
    drainLoopFast fuel r ar = drainLoop fuel r ar.reverse := by
  induction fuel generalizing r ar with
  | zero => rfl
  | succ f ih =>
    unfold drainLoopFast drainLoop
    split
    · rfl
    · split
      · rfl
      · rw [ih]; simp

def drainLoop' (fuel : Nat) (r : BR) (acc : List UInt8) : List UInt8 × Option IoKind := drainLoopFast fuel r acc.reverse

@[csimp] theorem drainLoop_eq_fast : @drainLoop = @drainLoop' := by
  funext fuel r acc; unfold drainLoop'; rw [drainLoopFast_eq]; simp

/-- `decode_nal(nal)`: `(borrowed?, bytes)` or `InvalidData` -/
def decodeNal (nal : List UInt8) : Except IoKind (Bool × List UInt8) :=
  let payload := nal.drop 1
  let r0 : BR := ⟨⟨nal, [], true⟩, .skip 1, 0, nal.length + 1⟩   -- max_fill = usize::MAX: never limits
  match fillBuf r0 with
  | (_, .error k) => .error k
  | (r1, .ok buf) =>
    if buf.length = payload.length then .ok (true, payload)
    else match drainLoop (nal.length + 2) r1 [] with
      | (_, some k) => .error k
      | (out, none) => .ok (false, out)

end Rbsp
