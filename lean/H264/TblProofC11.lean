import H264.TblProof
/-! theorems of `TblProof` that belong to C11 (one module per property: DESIGN.md 14.7) -/
namespace TblProof


theorem picStruct_model_eq_code : ∀ p : Fin 16, picStructCode p.val = Generated.picStruct.getD p.val (9, 9, 9) := by
  decide +kernel

end TblProof
