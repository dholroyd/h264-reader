import H264.AvccCtx
import H264.GeneratedSmall
/-! the AVC configuration record on a complete small domain (C09) -/
namespace SmallProof

def avccBase : List Nat := [0x01, 0x42, 0xc0, 0x1e, 0xff, 0xe1, 0x00, 0x02, 0x67, 0x42, 0x01, 0x00, 0x02, 0x68, 0xce]
/-- the base record, then every single-byte replacement by {00, 01, e2, ff} (position-major) -/
def avccVariants : List (List Nat) :=
  avccBase :: (List.range 15).flatMap fun pos => [0x00, 0x01, 0xe2, 0xff].map fun v => avccBase.set pos v
def avccInputs : List (List Nat) := avccVariants.flatMap fun r => (List.range 16).map fun len => r.take len

def itemsOf : Avcc.Res (List (List UInt8)) → List Nat
  | .ok l => l.flatMap fun b => 1 :: b.length :: b.map (·.toNat)
  | _ => [777]
/-- the iterator view of the harness: items until the first entry the iterator rejects -/
def iterItems (d : List UInt8) (wantType n pos : Nat) : Nat → List Nat
  | 0 => []
  | fuel+1 =>
    if n = 0 then [] else
    match Avcc.iter d wantType 1 pos with
    | .ok [b] => (1 :: b.length :: b.map (·.toNat)) ++ iterItems d wantType (n - 1) (pos + 2 + b.length) fuel
    | .ok _ => []
    | _ => [0]

def avccRow (w : List Nat) : List (List Nat) :=
  let d := w.map UInt8.ofNat
  match Avcc.tryFrom d with
  | .ok () =>
    (match Avcc.fields d, Avcc.numSps d, Avcc.spsEnd d with
     | .ok f, .ok n, .ok off =>
       let npps := (d.getD off 0).toNat
       [[1], [f.version, f.numSps, f.profile, f.compat, f.level, f.lengthSizeMinusOne], iterItems d 7 n 6 40, iterItems d 8 npps (off + 1) 300]
     | _, _, _ => [[777]])
  | .notEnoughData _ _ => [[2]]
  | .unsupportedVersion _ => [[3]]
  | _ => [[4]]

/-- model `Avcc.tryFrom` / accessors / iterators = real `AvcDecoderConfigurationRecord` on 976 records: the base record, every
single-byte replacement by {00, 01, e2, ff}, every prefix of each (truncation inside every field and every entry) -/
theorem avcc_model_eq_code : avccInputs.map avccRow = Generated.avccRows :=
  eq_of_beq (by decide +kernel)

end SmallProof
