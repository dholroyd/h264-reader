import H264.Mono
import H264.NoPanic
import H264.ClosedParsers
/-! The two `do … while` loops of the slice header (`readModOps`, `readMmcos`) carry fuel, handed over as remaining
bits + 1. Every iteration starts with a `ue(v)` read, which consumes a bit (`readUe_consumes`); so on a source with fewer
than `n` bits any two amounts of fuel ≥ `n` give related outcomes (`below_…`), for every relation that equal non-panic
outcomes satisfy: with equality, surplus fuel does not matter (`…_fuel`); with "no panic", the fuel is never used up
(`np_…`). With that the calls as the parser makes them (`…Auto`: the loop on remaining bits + 1) are `Mono` and `NoPanic`, and the SPS, PPS and slice-header
parsers get both properties from `ClosedParsers`. -/
namespace Slice
open Bits

/-- A relation between the outcomes of two runs that holds between equal outcomes unless they are a panic, and that
survives mapping the value. Equality (fuel does not matter) and "the left outcome is no panic" are the two uses. -/
structure OutcomeRel where
  rel : {α : Type} → Except Err (α × Src) → Except Err (α × Src) → Prop
  refl : ∀ {α} (r : Except Err (α × Src)), (∀ e, r = .error e → e.isPanic = false) → rel r r
  map : ∀ {α β} (h : α → β) {r r' : Except Err (α × Src)}, rel r r' →
    rel (match r with | .ok (a, s) => .ok (h a, s) | .error e => .error e)
        (match r' with | .ok (a, s) => .ok (h a, s) | .error e => .error e)

variable (Q : OutcomeRel)

def Below {α} (n : Nat) (p p' : P α) : Prop := ∀ s, s.bits.length < n → Q.rel (p s) (p' s)

variable {Q} {α β : Type} {n : Nat}

theorem Below.pure (a : α) : Below Q n (Pure.pure a) (Pure.pure a) := fun _ _ => Q.refl _ nofun

theorem Below.fail (e : Err) (he : e.isPanic = false) : Below Q n (fail e : P α) (fail e) :=
  fun _ _ => Q.refl _ fun _ h => by cases h; exact he

theorem Below.ite (c : Prop) [Decidable c] {p p' q q' : P α} (hp : Below Q n p p') (hq : Below Q n q q') :
    Below Q n (if c then p else q) (if c then p' else q') := by
  split <;> assumption

theorem Below.map {p p' : P α} (h : α → β) (hp : Below Q n p p') :
    Below Q n (p >>= fun a => Pure.pure (h a)) (p' >>= fun a => Pure.pure (h a)) := by
  intro s hs
  have := Q.map h (hp s hs)
  simp only [bind_run]
  cases hp : p s <;> cases hp' : p' s <;> simpa [hp, hp'] using this

/-- after a `ue(v)` read one bit less is left: the continuations need only be related below `n` -/
theorem Below.succ_readUe (nm) {g g' : Nat → P α} (h : ∀ k, Below Q n (g k) (g' k)) :
    Below Q (n + 1) (readUe nm >>= g) (readUe nm >>= g') := by
  intro s hs
  simp only [bind_run]
  cases hu : readUe nm s with
  | error e => exact Q.refl _ fun e' he => by cases he; exact closed_readUe npProp nm s e hu
  | ok r => exact h r.1 r.2 (by have := readUe_consumes nm s r.2 r.1 hu; omega)

theorem Below.readUe (nm) {g g' : Nat → P α} (h : ∀ k, Below Q n (g k) (g' k)) :
    Below Q n (readUe nm >>= g) (readUe nm >>= g') :=
  fun s hs => Below.succ_readUe nm h s (by omega)

theorem below_readModOps (Q : OutcomeRel) : ∀ n f f', n ≤ f → n ≤ f' → Below Q n (readModOps f) (readModOps f')
  | 0, _, _, _, _ => fun _ h => nomatch h
  | n+1, f+1, f'+1, hf, hf' => by
    have ih := below_readModOps Q n f f' (by omega) (by omega)
    unfold readModOps
    exact .succ_readUe _ fun idc =>
      .ite _ (.readUe _ fun v => .map _ ih) <|
      .ite _ (.readUe _ fun v => .map _ ih) <|
      .ite _ (.readUe _ fun v => .map _ ih) <|
      .ite _ (.pure _) (.fail _ rfl)

theorem below_readMmcos (Q : OutcomeRel) : ∀ n f f', n ≤ f → n ≤ f' → Below Q n (readMmcos f) (readMmcos f')
  | 0, _, _, _, _ => fun _ h => nomatch h
  | n+1, f+1, f'+1, hf, hf' => by
    have ih := below_readMmcos Q n f f' (by omega) (by omega)
    unfold readMmcos
    exact .succ_readUe _ fun op =>
      .ite _ (.pure _) <|
      .ite _ (.readUe _ fun d => .map _ ih) <|
      .ite _ (.readUe _ fun n => .map _ ih) <|
      .ite _ (.readUe _ fun d => .readUe _ fun i => .map _ ih) <|
      .ite _ (.readUe _ fun m => .map _ ih) <|
      .ite _ (.map _ ih) <|
      .ite _ (.readUe _ fun i => .map _ ih) (.fail _ rfl)

def eqRel : OutcomeRel where
  rel r r' := r = r'
  refl _ _ := rfl
  map := fun _ _ _ h => by rw [h]

def noPanicRel : OutcomeRel where
  rel r _ := ∀ e, r = .error e → e.isPanic = false
  refl _ h := h
  map := fun _ r _ h e he => by
    cases r with
    | error e' => cases he; exact h _ rfl
    | ok v => cases he

theorem readModOps_fuel (f f' : Nat) (s : Src) (h : s.bits.length < f) (h' : s.bits.length < f') :
    readModOps f s = readModOps f' s :=
  below_readModOps eqRel (s.bits.length + 1) f f' h h' s (Nat.lt_succ_self _)

theorem readMmcos_fuel (f f' : Nat) (s : Src) (h : s.bits.length < f) (h' : s.bits.length < f') :
    readMmcos f s = readMmcos f' s :=
  below_readMmcos eqRel (s.bits.length + 1) f f' h h' s (Nat.lt_succ_self _)

/-- the fuel handed to the list-modification loop is never exhausted: every iteration consumes a bit -/
theorem np_readModOps (fuel : Nat) (s : Src) (hf : s.bits.length < fuel) :
    ∀ e, readModOps fuel s = .error e → e.isPanic = false :=
  below_readModOps noPanicRel fuel fuel fuel (Nat.le_refl _) (Nat.le_refl _) s hf

theorem np_readMmcos (fuel : Nat) (s : Src) (hf : s.bits.length < fuel) :
    ∀ e, readMmcos fuel s = .error e → e.isPanic = false :=
  below_readMmcos noPanicRel fuel fuel fuel (Nat.le_refl _) (Nat.le_refl _) s hf

theorem mono_auto {α} (L : Nat → P α) (hm : ∀ f, Mono (L f))
    (hf : ∀ f f' s, s.bits.length < f → s.bits.length < f' → L f s = L f' s) :
    Mono (fun s => L (s.bits.length + 1) s) := by
  intro s' s hp
  have hlen : s'.bits.length ≤ s.bits.length := by obtain ⟨_, t, ht⟩ := hp; simp [ht]
  show MonoRes (L (s.bits.length + 1) s) (L (s'.bits.length + 1) s')
  rw [hf (s'.bits.length + 1) (s.bits.length + 1) s' (by omega) (by omega)]
  exact hm _ s' s hp

theorem mono_readModOpsAuto : Mono (fun s => readModOps (s.bits.length + 1) s) :=
  mono_auto readModOps (closed_readModOps monoProp (Mono.fail _)) readModOps_fuel
theorem mono_readMmcosAuto : Mono (fun s => readMmcos (s.bits.length + 1) s) :=
  mono_auto readMmcos (closed_readMmcos monoProp (Mono.fail _)) readMmcos_fuel

theorem np_readModOpsAuto : NoPanic (fun s => readModOps (s.bits.length + 1) s) :=
  fun s e h => np_readModOps _ s (by omega) e h
theorem np_readMmcosAuto : NoPanic (fun s => readMmcos (s.bits.length + 1) s) :=
  fun s e h => np_readMmcos _ s (by omega) e h

theorem np_readModList : NoPanic readModList :=
  npProp.bind (npProp.readBit _) fun _ => npProp.ite _ (npProp.pure _) np_readModOpsAuto

/-- **C17 (slice header)**: a header accepted from a truncated, incomplete view equals the one parsed from the whole -/
theorem mono_parseSliceHeader (ctx hdr) : Mono (parseSliceHeader ctx hdr) :=
  closed_parseSliceHeader monoProp mono_readModOpsAuto mono_readMmcosAuto ctx hdr

#print axioms np_readModList
#print axioms mono_readModOpsAuto
end Slice

namespace Sps
open Bits

/-- **C17 (SPS)** -/
theorem mono_parseSps : Mono parseSps := closed_parseSps monoProp

#print axioms mono_parseSps
end Sps

namespace Pps
open Bits

/-- **C17 (PPS)** -/
theorem mono_parsePps (ctx) : Mono (parsePps ctx) := closed_parsePps monoProp ctx

#print axioms mono_parsePps
end Pps
