import H264.Pps
import H264.Context
import H264.GeneratedSmall
/-! PPS slice-group map types over a grid of group counts (C05) on a complete small domain -/
namespace SmallProof
open Bits

def ppsMapRow (i : Nat) : Nat × Nat :=
  let n := i / 8; let t := i % 8
  let spsBits := encBits 8 66 ++ encBits 8 0 ++ encBits 8 30 ++ encUe 0 ++ encUe 0 ++ encUe 2 ++ encUe 1 ++ [false] ++ encUe 1 ++ encUe 1 ++ [true, false, false, false] ++ [true]
  match Sps.parseSps ⟨spsBits, .eof⟩ with
  | .error _ => (7, 7)
  | .ok (s, _) =>
    let m := Ctx.put [] s.spsId s
    let cont : List Bool :=
      if n = 0 then [] else encUe t ++
        (if t = 0 then (List.replicate (n + 1) (encUe 0)).flatten
         else if t = 2 then (List.replicate n (encUe 0 ++ encUe 0)).flatten
         else if t = 3 ∨ t = 4 ∨ t = 5 then [false] ++ encUe 0
         else if t = 6 then encUe 0 ++ encBits (if n ≥ 4 then 3 else if n ≥ 2 then 2 else 1) 0
         else [])
    let bits := encUe 0 ++ encUe 0 ++ [false, false] ++ encUe n ++ cont ++ encUe 0 ++ encUe 0 ++ [false] ++ encBits 2 0 ++ encSe 0 ++ encSe 0 ++ encSe 0 ++ [false, false, false] ++ [true]
    match Pps.parsePps (Ctx.get m) ⟨bits, .eof⟩ with
    | .ok (p, _) => (1, match p.sliceGroups with
        | none => 0 | some (.interleaved _) => 1 | some (.dispersed _) => 2 | some (.foregroundAndLeftover _) => 3
        | some (.changing ..) => 4 | some (.explicitAssignment ..) => 5)
    | .error _ => (0, 0)

/-- model `parsePps` = real `PicParameterSet::from_bits` on num_slice_groups_minus1 0…8 × slice_group_map_type 0…7 (72 PPS with the
element counts 7.3.2.2 prescribes): accepted or not, and which kind of slice group came back -/
theorem ppsMap_model_eq_code : (List.range 72).map ppsMapRow = Generated.ppsMapRows := by
  -- the row's bit string is a left-nested `++` of some 15 pieces; re-associated once here, the kernel does not walk
  -- a `List.append` frame per piece for every bit read
  unfold ppsMapRow
  simp only [List.append_assoc, List.cons_append, List.nil_append]
  decide +kernel

end SmallProof
