import H264.DecodeNalSpec
import H264.Context
import H264.Sei
import H264.PpsConverse
import H264.SliceConverse
import H264.SpsRangesAll
import H264.History
import H264.Accum
/-! # Size ledger (C03, "never over-allocates"): everything a model component builds or keeps is bounded by the size of
the input it was built from, or by a constant

The Rust allocates in exactly four ways: (1) `Vec::with_capacity(n)` right after `n` has been range-checked
(SPS offsets ≤ 255, CPB entries ≤ 32, run lengths / rectangles ≤ 8 / 7, 6 + 6 scaling lists, ≤ 32 weight entries);
(2) `push` after a successful read of at least one bit (slice-group ids, list-modification operations, MMCOs);
(3) buffers that hold a copy of input bytes (`decode_nal`, the NAL accumulator, the SEI scratch buffer);
(4) the parameter-set tables indexed by a checked id. The theorems below bound the corresponding model values, for all
inputs. (Capacity growth by doubling and the allocator itself are runtime behaviour: measured, see DESIGN C03.) -/
namespace Alloc
open Bits Slice

/-! ### (3) copies of input bytes -/

/-- un-escaping never produces more bytes than it was given, from every scanner state -/
theorem unescFrom_length_le (st : Rbsp.PS) (xs : List UInt8) : (Rbsp.unescFrom st xs).1.length ≤ xs.length :=
  NalSrc.unescFrom_length_le st xs

/-- `decode_nal`: the decoded RBSP is never longer than the NAL's payload (so the output buffer never grows
beyond the input; the Rust asks for `payload.len() - 1`, counting on at least one removed byte on the copying path: that
tighter bound is not proved here) -/
theorem decodeNal_length_le (nal : List UInt8) (b : Bool) (out : List UInt8)
    (h : Rbsp.decodeNal nal = .ok (b, out)) : out.length ≤ nal.length - 1 := by
  have := unescFrom_length_le .start (nal.drop 1)
  rwa [Rbsp.unescFrom_start_eq, Rbsp.decodeNal_ok h, List.length_drop] at this

/-- SEI `ff`-extension numbers: the value read is at most 255 per byte consumed (so the scratch buffer that
`SeiReader::next` resizes to `payload_len` *before* the payload bytes are known to be there is ≤ 255·input) -/
theorem readU32_le (name : String) (fin : IoKind) (bs : List UInt8) (acc n : Nat) (rest : List UInt8)
    (h : Sei.readU32 name fin bs acc = .ok (n, rest)) :
    n + 255 * rest.length ≤ acc + 255 * bs.length ∧ rest.length < bs.length := by
  obtain ⟨k, b, rfl, _, rfl, _⟩ := Sei.readU32_ok h
  have := b.toNat_lt
  simp only [List.length_append, List.length_replicate, List.length_cons]; omega

/-- a delivered SEI message: its payload and everything still unread fit in what was there, and the requested scratch
size is the payload length -/
theorem next_payload_le (r r' : Sei.Reader) (ty : Nat) (pl : List UInt8)
    (h : Sei.next r = (r', .ok (some (ty, pl)))) :
    pl.length + r'.src.bytes.length + 2 ≤ r.src.bytes.length := by
  by_cases hd : r.done = true
  · rw [Sei.next_done r hd] at h; cases h
  have hs := Sei.next_spec r (by simpa using hd)
  rw [h] at hs
  cases hs with
  | msg h1 _ h2 hl =>
    have a := readU32_le _ _ _ _ _ _ h1
    have c := readU32_le _ _ _ _ _ _ h2
    simp only [List.length_take, List.length_drop]
    omega

/-- the scratch size requested for a message whose payload turns out to be missing is still ≤ 255·(bytes given) -/
theorem scratch_request_le (name : String) (fin : IoKind) (bs : List UInt8) (len : Nat) (rest : List UInt8)
    (h : Sei.readU32 name fin bs 0 = .ok (len, rest)) : len ≤ 255 * bs.length := by
  have := readU32_le name fin bs 0 len rest h; omega

/-- the NAL accumulator: one delivery lengthens the buffer by at most the bytes delivered -/
theorem frag_buf_le (a : Accum.Acc) (bufs : List (List UInt8)) (fin : Bool) (d : Accum.Invocation → Accum.Interest) :
    (Accum.frag a bufs fin d).1.buf.length ≤ a.buf.length + bufs.flatten.length := by
  rcases Accum.frag_cases a bufs fin d with ⟨_, hf⟩ | ⟨_, _, hf⟩ | ⟨inv, _, _, _, hf⟩ <;> rw [hf]
  · cases fin <;> simp [Accum.init]
  · exact Nat.le_add_right ..
  · cases fin
    · cases d inv <;> simp
    · simp [Accum.init]

/-- … so after any history the buffer holds at most the bytes delivered (`reserve(len)` + `extend_from_slice` never
exceed the input), whatever the handler answered -/
theorem acc_buffer_le_input (a : Accum.Acc) (steps : List Accum.Step) (tr : List Accum.Invocation) :
    (Accum.run a steps tr).1.buf.length ≤ a.buf.length + (steps.map fun s => s.bufs.flatten.length).sum := by
  induction steps generalizing a tr with
  | nil => exact Nat.le_add_right ..
  | cons s ss ih =>
    have h1 := frag_buf_le a s.bufs s.fin (fun _ => s.answer)
    rw [Accum.run, List.map_cons, List.sum_cons]
    exact Nat.le_trans (ih _ _) (by omega)

/-! ### (4) parameter-set tables: `resize_with(index + 1)` with a checked index -/

/-- after any sequence of insertions under ids below `B` (32 for SPS, 256 for PPS: both ids are range-checked by the
parsers) the table never has more than `B` slots -/
theorem table_length_le {α} (B : Nat) (ws : List (Nat × α)) (m : Ctx.PMap α) (hm : m.length ≤ B)
    (h : ∀ w ∈ ws, w.1 < B) : (ws.foldl (fun m w => Ctx.put m w.1 w.2) m).length ≤ B := by
  induction ws generalizing m with
  | nil => exact hm
  | cons w ws ih =>
    obtain ⟨hw, hws⟩ := List.forall_mem_cons.mp h
    exact ih _ (by rw [Ctx.put_length]; omega) hws

/-! ### (1) + (2) parsed structures: list sizes against consumed bits -/

theorem groupIdBits_pos (n : Nat) (h : 1 ≤ n) : 1 ≤ Pps.groupIdBits n := by
  unfold Pps.groupIdBits; split <;> omega

/-- number of list cells of the slice-group part of a PPS -/
def sliceGroupCells : Option Pps.SliceGroup → Nat
  | some (.interleaved rl) => rl.length
  | some (.foregroundAndLeftover rs) => rs.length
  | some (.explicitAssignment _ ids) => ids.length
  | _ => 0

/-- **PPS**: whatever is accepted, the only list whose length is not bounded by a constant — the explicit slice-group
ids — has at most one entry per input bit (every id is coded with ≥ 1 bit because there are ≥ 2 groups); run
lengths ≤ 8 and rectangles ≤ 7 are exactly the `with_capacity` requests -/
theorem pps_cells_le (spsById : Nat → Option Sps.Sps) (s s' : Src) (v : Pps.Pps)
    (h : Pps.parsePps spsById s = .ok (v, s')) :
    sliceGroupCells v.sliceGroups ≤ s.bits.length + 8 ∧
    (∀ rl, v.sliceGroups = some (.interleaved rl) → rl.length ≤ 8) ∧
    (∀ rs, v.sliceGroups = some (.foregroundAndLeftover rs) → rs.length ≤ 7) ∧
    (∀ n ids, v.sliceGroups = some (.explicitAssignment n ids) → ids.length ≤ s.bits.length) := by
  obtain ⟨sp, sm, z, -, ⟨-, -, hg, -⟩, hbits, -⟩ := Pps.C05_converse spsById s s' v h
  have h8 : ∀ rl, v.sliceGroups = some (.interleaved rl) → rl.length ≤ 8 := fun rl hv => by
    rw [hv] at hg; exact hg.2.1
  have h7 : ∀ rs, v.sliceGroups = some (.foregroundAndLeftover rs) → rs.length ≤ 7 := fun rs hv => by
    rw [hv] at hg; exact hg.2.1
  have key : ∀ n ids, v.sliceGroups = some (.explicitAssignment n ids) → ids.length ≤ s.bits.length := by
    intro n ids hv
    rw [hv] at hg
    -- two groups or more, so each id takes at least one bit
    have hl := flatten_map_length_ge (encBits (Pps.groupIdBits n)) 1 ids fun x _ => by
      rw [encBits_length]; exact groupIdBits_pos n hg.1
    rw [hbits]
    simp only [Pps.encPps, Pps.encSliceGroups, hv, Pps.encSliceGroup, List.length_append]
    omega
  refine ⟨?_, h8, h7, key⟩
  cases hv : v.sliceGroups with
  | none => exact Nat.zero_le _
  | some g =>
    cases g with
    | interleaved rl => exact Nat.le_trans (h8 rl hv) (Nat.le_add_left ..)
    | foregroundAndLeftover rs => exact Nat.le_trans (h7 rs hv) (by omega)
    | explicitAssignment n ids => exact Nat.le_trans (key n ids hv) (Nat.le_add_right ..)
    | dispersed n => exact Nat.zero_le _
    | changing t n d r => exact Nat.zero_le _


def modCells : Slice.RefPicListMods → Nat
  | .I => 0 | .P a => a.length | .B a b => a.length + b.length

def markCells : Option Slice.DecRefPicMarking → Nat
  | some (.adaptive ops) => ops.length | _ => 0


theorem modList_le (ops : List ModOp) (lf : Bool) : ops.length ≤ (encModListAlt ops lf).length := by
  unfold encModListAlt
  split
  · rename_i h; simp [h.1]
  · have := flatten_map_length_ge encModOp 1 ops (fun o _ => encModOp_length_pos o)
    simp only [List.length_append]; omega


theorem mods_le (alt : ModAlt) (m : RefPicListMods) : modCells m ≤ (encRefPicListModsAlt alt m).length := by
  cases m with
  | I => simp [modCells]
  | P a => simpa [modCells, encRefPicListModsAlt] using modList_le a alt.l0
  | B a b =>
    have := modList_le a alt.l0; have := modList_le b alt.l1
    simp only [modCells, encRefPicListModsAlt, List.length_append]; omega


theorem marking_le (hdr : NalHdr) (h : SliceHeader) (hwf : hdr.nalRefIdc = 0 → h.decRefPicMarking = none) :
    markCells h.decRefPicMarking ≤ (encMarkingOpt hdr h).length := by
  unfold markCells
  split
  · next ops hm =>
    have h0 : hdr.nalRefIdc ≠ 0 := fun h0 => by rw [hwf h0] at hm; cases hm
    have := flatten_map_length_ge encMmco 1 ops (fun o _ => encMmco_length_pos o)
    simp only [encMarkingOpt, h0, hm, encDecRefPicMarking, List.length_append, ↓reduceIte]; omega
  · exact Nat.zero_le _

/-- **slice header**: the two lists that grow by `push` inside `do … while` loops — reference-list modification
operations and memory-management control operations — have together at most one entry per header bit consumed
(so the loops also make at most that many iterations on every accepted input). Context hypothesis: the PPS found
under `pid` carries that id (true of every reachable context, `History.reachable_inv`). -/
theorem slice_cells_le (ctx : Slice.Ctx) (hdr : Slice.NalHdr) (s s' : Src) (h : Slice.SliceHeader) (sid pid : Nat)
    (hok : Slice.parseSliceHeader ctx hdr s = .ok ((h, sid, pid), s'))
    (hctx : ∀ p, ctx.pps pid = some p → p.ppsId = pid) :
    modCells h.refPicListModification + markCells h.decRefPicMarking + s'.bits.length ≤ s.bits.length := by
  obtain ⟨pps, sps, x, alt, hp, -, -, -, hbits, -, -, hwf⟩ := Slice.C06_converse ctx hdr s s' h sid pid hok
  have wf := hwf (hctx pps hp)
  have hm := mods_le alt h.refPicListModification
  have hk := marking_le hdr h (by intro h0; have := wf.marking; simpa [h0] using this)
  rw [hbits]
  unfold Slice.encSliceHeaderAlt
  simp only [List.length_append]
  omega

/-- the same for every context reachable by feeding parameter sets -/
theorem slice_cells_le_reachable (ops : List History.Op) (hdr : Slice.NalHdr) (s s' : Src) (h : Slice.SliceHeader)
    (sid pid : Nat)
    (hok : Slice.parseSliceHeader (History.sctx (History.run ops)) hdr s = .ok ((h, sid, pid), s')) :
    modCells h.refPicListModification + markCells h.decRefPicMarking + s'.bits.length ≤ s.bits.length :=
  slice_cells_le _ hdr s s' h sid pid hok (fun p hp => ((History.reachable_inv ops).2 pid p hp).1)

/-- **SPS**: every list of an accepted SPS is bounded by a constant — the `with_capacity` requests 255 (reference
frame offsets), 32 (CPB entries per HRD), 6 and 6 / 2 (scaling lists) are the checked counts -/
theorem sps_cells_const (s s' : Src) (v : Sps.Sps) (h : Sps.parseSps s = .ok (v, s')) :
    (∀ f a b offs, v.picOrderCnt = .typeOne f a b offs → offs.length ≤ 255) ∧
    (∀ u hrd, v.vui = some u → (u.nalHrd = some hrd ∨ u.vclHrd = some hrd) → hrd.cpbSpecs.length ≤ 32) ∧
    (∀ m, v.chromaInfo.scalingMatrix = some m → m.l4x4.length = 6 ∧ m.l8x8.length ≤ 6) := by
  obtain ⟨core, -, -, hm, -⟩ := Sps.parseSps_ranges_all s s' v h
  refine ⟨fun _ _ _ _ hv => core.offs_le hv, fun _ _ hu hh => (core.cpb_le hu hh).2, ?_⟩
  · intro m hmm
    obtain ⟨h4, h8⟩ := hm m hmm
    refine ⟨h4, ?_⟩
    rw [h8]; split <;> omega

end Alloc
