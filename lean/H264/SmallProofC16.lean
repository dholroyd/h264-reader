import H264.Pps
import H264.Context
import H264.GeneratedSmall
/-! one coded field of a minimal SPS / PPS swept over the values around every range check (C16) -/
namespace SmallProof
open Bits

def encS (v : Int) : Nat := if v < 0 then 2 * v.natAbs + 1 else 2 * v.natAbs

def spsFieldRow (i : Nat) : Nat × Nat :=
  let field := i / 41; let v := i % 41
  let high := field ≥ 6
  let f (k dflt : Nat) : Nat := if k = field then v else dflt
  let poc := f 2 2
  let bits := encBits 8 (if high then 100 else 66) ++ encBits 8 0 ++ encBits 8 30 ++ encUe (f 0 0) ++
    (if high then encUe 1 ++ encUe (f 6 0) ++ encUe (f 7 0) ++ [false, false] else []) ++
    encUe (f 1 0) ++ encUe poc ++
    (if poc = 0 then encUe 0 else if poc = 1 then [false] ++ encSe 0 ++ encSe 0 ++ encUe 0 else []) ++
    encUe (f 3 1) ++ [false] ++ encUe (f 4 1) ++ encUe (f 5 1) ++ [true, false, false, false] ++ [true]
  match Sps.parseSps ⟨bits, .eof⟩ with
  | .error _ => (0, 0)
  | .ok (s, _) =>
    (1, match field with
      | 0 => s.spsId | 1 => s.log2MaxFrameNumMinus4
      | 2 => (match s.picOrderCnt with | .typeZero _ => 0 | .typeOne .. => 1 | .typeTwo => 2)
      | 3 => s.maxNumRefFrames | 4 => s.picWidthInMbsMinus1 | 5 => s.picHeightInMapUnitsMinus1
      | 6 => s.chromaInfo.bitDepthLumaMinus8 | _ => s.chromaInfo.bitDepthChromaMinus8)

/-- model `parseSps` = real `from_bits` on eight fields × values 0…40 (every range check of the minimal SPS is crossed: id 31 / 32,
log2_max_frame_num_minus4 12 / 13, POC type 2 / 3, bit depths 6 / 7, …): accepted or not, and the field as returned -/
theorem spsFields_model_eq_code : (List.range 328).map spsFieldRow = Generated.spsFieldRows := by
  -- the row's bit string is a left-nested `++` of ~25 pieces; re-associated once here, the kernel does not walk
  -- 25 `List.append` frames for every bit read
  unfold spsFieldRow
  simp only [List.append_assoc, List.cons_append, List.nil_append]
  decide +kernel

def ppsFieldRow (i : Nat) : Nat × Nat :=
  let field := i / 82; let k := i % 82
  let uv : Nat := if field = 0 ∧ k ≥ 41 then 195 + k else k % 41
  let sv : Int := (k : Int) - 41
  let fu (j dflt : Nat) : Nat := if j = field then uv else dflt
  let fs (j : Nat) : Int := if j = field then sv else 0
  let spsBits := encBits 8 66 ++ encBits 8 0 ++ encBits 8 30 ++ encUe 0 ++ encUe 0 ++ encUe 2 ++ encUe 1 ++ [false] ++ encUe 1 ++ encUe 1 ++ [true, false, false, false] ++ [true]
  match Sps.parseSps ⟨spsBits, .eof⟩ with
  | .error _ => (7, 7)
  | .ok (s, _) =>
    let m := Ctx.put [] s.spsId s
    let bits := encUe (fu 0 0) ++ encUe (fu 1 0) ++ [false, false] ++ encUe 0 ++ encUe (fu 2 0) ++ encUe (fu 3 0) ++ [false] ++ encBits 2 0 ++
      encSe (fs 4) ++ encSe (fs 5) ++ encSe (fs 6) ++ [false, false, false] ++ [true]
    match Pps.parsePps (Ctx.get m) ⟨bits, .eof⟩ with
    | .error _ => (0, 0)
    | .ok (p, _) =>
      (1, match field with
        | 0 => p.ppsId | 1 => p.spsId | 2 => p.numRefIdxL0DefaultActiveMinus1 | 3 => p.numRefIdxL1DefaultActiveMinus1
        | 4 => encS p.picInitQpMinus26 | 5 => encS p.picInitQsMinus26 | _ => encS p.chromaQpIndexOffset)

/-- model `parsePps` = real `from_bits` on seven fields swept across their range checks (pps_id 255 / 256, sps_id present or not,
reference counts 31 / 32, pic_init_qp −26 / −27 and 25 / 26, pic_init_qs likewise, chroma offset ±12 / ±13) -/
theorem ppsFields_model_eq_code : (List.range 574).map ppsFieldRow = Generated.ppsFieldRows := by
  unfold ppsFieldRow
  simp only [List.append_assoc, List.cons_append, List.nil_append]
  decide +kernel

end SmallProof
