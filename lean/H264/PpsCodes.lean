import H264.PpsStd
import H264.SpsCodes
import H264.Trailing
/-! The PPS syntax structures, one statement each (see `SpsCodes`), and the optional tail behind `more_rbsp_data()`,
which looks ahead and is therefore not the decoder of a code: its two directions are separate lemmas. -/
namespace Pps
open Bits Sps

theorem readSliceGroups_exact (sp : Sps.Sps) (s s' : Src) (g : Option SliceGroup)
    (h : readSliceGroups sp s = .ok (g, s')) :
    OptWF (SliceGroup.WF sp) g ∧ s.bits = encSliceGroups g ++ s'.bits ∧ s'.fin = s.fin :=
  (readSliceGroups_codes sp s g s').1 h

theorem readNumRefIdx_codes (nm) : Codes (readNumRefIdx nm) (· ≤ 31) encUe :=
  readUeMax_codes nm 31 _ (by omega)

/-! ### the scaling matrix: stored as derived, hence `Parses` with the coded syntax as a witness -/

theorem readPicScalingMatrix_parses (sp : Sps.Sps) (t : Bool) :
    Parses (readPicScalingMatrix sp t) fun m e => ∃ sm, PicMatrixDerives sp t sm m ∧ e = encPicScalingMatrix sm := by
  intro s m s'
  rw [after_start]
  simp only [readPicScalingMatrix, parse_iff, (readScalingLists_parses _ _ _ _ _).after_bind]
  simp only [Bool.exists_bool, Bool.not_false, Bool.not_true, if_true, Bool.false_eq_true, if_false, List.nil_append,
    List.reverse_nil]
  constructor
  · rintro (⟨rfl, c⟩ | ⟨_, _, ⟨ls, x, y, hl, hs, hd, rfl, rfl⟩, rfl, c⟩)
    · exact ⟨_, ⟨none, rfl, rfl⟩, c⟩
    · exact ⟨_, ⟨some ls, ⟨hl, hd, x, y, hs, rfl⟩, rfl⟩, c⟩
  · rintro ⟨_, ⟨_ | ls, hm, rfl⟩, c⟩
    · cases hm; exact .inl ⟨rfl, c⟩
    · obtain ⟨hl, hd, x, y, hs, rfl⟩ := hm
      exact .inr ⟨_, _, ⟨ls, x, y, hl, hs, hd, rfl, rfl⟩, rfl, c⟩

theorem readPicScalingMatrix_enc (s : Sps.Sps) (t : Bool) (sm : Option ScalingSyntax)
    (m : Option PicScalingMatrix) (h : PicMatrixDerives s t sm m) (rest fin) :
    readPicScalingMatrix s t ⟨encPicScalingMatrix sm ++ rest, fin⟩ = .ok (m, ⟨rest, fin⟩) :=
  (readPicScalingMatrix_parses s t).enc ⟨sm, h, rfl⟩ rest fin

theorem readPicScalingMatrix_exact (sp : Sps.Sps) (t : Bool) (s s' : Src) (m : Option PicScalingMatrix)
    (h : readPicScalingMatrix sp t s = .ok (m, s')) :
    ∃ sm, PicMatrixDerives sp t sm m ∧ s.bits = encPicScalingMatrix sm ++ s'.bits ∧ s'.fin = s.fin := by
  obtain ⟨_, ⟨sm, hd, rfl⟩, c⟩ := (readPicScalingMatrix_parses sp t s m s').1 h
  exact ⟨sm, hd, c⟩

/-! ### the optional tail, gated by more_rbsp_data() -/

/-- **C05 (tail)**: the optional tail is read exactly when it is there -/
theorem readPpsExtra_enc (s : Sps.Sps) (e : Option PpsExtra) (sm : Option ScalingSyntax)
    (wf : match e with | none => True | some e => e.WF s sm) (z : Nat) :
    readPpsExtra s ⟨encPpsExtra e sm ++ trailing z, .eof⟩ = .ok (e, ⟨trailing z, .eof⟩) := by
  cases e with
  | none => simp [readPpsExtra, encPpsExtra, hasMore_trailing]
  | some e =>
    obtain ⟨t, m, q⟩ := e
    obtain ⟨w1, w2, w3⟩ := wf
    simp only at w1 w2 w3
    have hm := hasMore_before_trailing "transform_8x8_mode_flag" t (encPicScalingMatrix sm ++ encSe q) z
    rw [readPpsExtra, bind_ok_iff]
    refine ⟨true, _, by simpa [encPpsExtra, encBool] using hm, ?_⟩
    rw [after_start]
    simp only [if_true, parse_hyp, (readPicScalingMatrix_parses _ _).after_bind]
    exact ⟨t, m, _, ⟨sm, w1, rfl⟩, q, by unfold SeRange; omega, by omega, rfl,
      by simp [encBool, List.append_assoc], rfl⟩

theorem readPpsExtra_exact (sp : Sps.Sps) (s s' : Src) (e : Option PpsExtra)
    (h : readPpsExtra sp s = .ok (e, s')) :
    ∃ sm, OptWF (fun e => e.WF sp sm) e ∧ s.bits = encPpsExtra e sm ++ s'.bits ∧ s'.fin = s.fin ∧
      (e = none → (s.bits.drop 1).any id = false) := by
  unfold readPpsExtra at h
  obtain ⟨more, s0, h0, h⟩ := (bind_ok_iff ..).1 h
  obtain ⟨rfl, hfalse⟩ := hasMore_ok _ _ _ _ h0
  cases more with
  | false =>
    obtain ⟨rfl, rfl⟩ := (pure_ok_iff ..).1 h
    exact ⟨none, trivial, rfl, rfl, fun _ => (hfalse rfl).2⟩
  | true =>
    rw [after_start] at h
    simp only [if_true, parse_hyp, (readPicScalingMatrix_parses _ _).after_bind] at h
    obtain ⟨t, m, _, ⟨sm, hm, rfl⟩, q, -, hq, rfl, c⟩ := h
    exact ⟨sm, ⟨hm, by show -12 ≤ q; omega, by show q ≤ 12; omega⟩, by simpa [encPpsExtra] using c.1, c.2, nofun⟩

#print axioms readPpsExtra_enc
end Pps
