import H264.AvccCtx
import H264.AvccBuild
import H264.NoPanic
import H264.ClosedParsers
/-! C09 / C03, the two loops of `create_context`: on a validated region neither can panic; on encoded entries each is
the fold of the direct parses of the stored NALs. (`Properties/C09.lean` puts the two together.) -/
namespace Avcc
open Bits

def CtxErr.isPanic : CtxErr → Bool | .panic _ => true | _ => false

theorem ctxSps_noPanic (d : List UInt8) (n pos e : Nat) (m : Ctx.PMap Sps.Sps) (h : Walked d n pos e) :
    ∀ err, ctxSps d n pos m = .error err → err.isPanic = false := by
  induction n generalizing pos m with
  | zero => intro err he; cases he
  | succ n ih =>
    intro err he
    simp only [ctxSps] at he
    split at he
    · cases he
    · rcases entry_walked d 7 n pos e h with ⟨nal, next, hent, hw⟩ | ⟨t, hent⟩
      · simp only [hent, liftErr] at he
        split at he
        · have := Sps.closed_parseSps npProp _ _ ‹_›; cases this
        · cases he; rfl
        · exact ih next _ hw err he
      · rw [hent] at he; cases he; rfl

theorem ctxPps_noPanic (d : List UInt8) (sm : Ctx.PMap Sps.Sps) (n pos e : Nat) (m : Ctx.PMap Pps.Pps) (h : Walked d n pos e) :
    ∀ err, ctxPps d sm n pos m = .error err → err.isPanic = false := by
  induction n generalizing pos m with
  | zero => intro err he; cases he
  | succ n ih =>
    intro err he
    simp only [ctxPps] at he
    split at he
    · cases he
    · rcases entry_walked d 8 n pos e h with ⟨nal, next, hent, hw⟩ | ⟨t, hent⟩
      · simp only [hent, liftErr] at he
        split at he
        · have := Pps.closed_parsePps npProp _ _ _ ‹_›; cases this
        · cases he; rfl
        · exact ih next _ hw err he
      · rw [hent] at he; cases he; rfl

/-! ### the context created from a built record is the fold of the direct parses -/

/-- parse each SPS NAL directly (contiguous, complete) and store it -/
def foldSps : List (List UInt8) → Ctx.PMap Sps.Sps → Except CtxErr (Ctx.PMap Sps.Sps)
  | [], m => .ok m
  | nal :: rest, m =>
    match Sps.parseSps (NalSrc.srcOfNal [nal] true) with
    | .error (.panic t) => .error (.panic t)
    | .error _ => .error .sps
    | .ok (s, _) => foldSps rest (Ctx.put m s.spsId s)

def foldPps (sm : Ctx.PMap Sps.Sps) : List (List UInt8) → Ctx.PMap Pps.Pps → Except CtxErr (Ctx.PMap Pps.Pps)
  | [], m => .ok m
  | nal :: rest, m =>
    match Pps.parsePps (Ctx.get sm) (NalSrc.srcOfNal [nal] true) with
    | .error (.panic t) => .error (.panic t)
    | .error _ => .error .pps
    | .ok (p, _) => foldPps sm rest (Ctx.put m p.ppsId p)

theorem ctxSps_enc {d : List UInt8} {pos : Nat} (nals : List (List UInt8)) {post : List UInt8} (m : Ctx.PMap Sps.Sps)
    (hd : d.drop pos = encEntries nals ++ post) (hn : ∀ n ∈ nals, NalOfType 7 n) :
    ctxSps d nals.length pos m = foldSps nals m := by
  induction nals generalizing pos m with
  | nil => rfl
  | cons nal rest ih =>
    rw [encEntries_cons, List.append_assoc] at hd
    obtain ⟨hnal, hrest⟩ := List.forall_mem_cons.mp hn
    obtain ⟨_, _, _, _, _, hd2, htot⟩ := enc_hdr hd hnal.length_le
    simp only [List.length_cons, ctxSps, foldSps, entry_enc 7 hd hnal, liftErr]
    rw [if_neg (by omega)]
    cases Sps.parseSps (NalSrc.srcOfNal [nal] true) with
    | error e => cases e <;> rfl
    | ok sv => exact ih _ (drop_at hd2) hrest

theorem ctxPps_enc (sm : Ctx.PMap Sps.Sps) {d : List UInt8} {pos : Nat} (nals : List (List UInt8)) {post : List UInt8}
    (m : Ctx.PMap Pps.Pps) (hd : d.drop pos = encEntries nals ++ post) (hn : ∀ n ∈ nals, NalOfType 8 n) :
    ctxPps d sm nals.length pos m = foldPps sm nals m := by
  induction nals generalizing pos m with
  | nil => rfl
  | cons nal rest ih =>
    rw [encEntries_cons, List.append_assoc] at hd
    obtain ⟨hnal, hrest⟩ := List.forall_mem_cons.mp hn
    obtain ⟨_, _, _, _, _, hd2, htot⟩ := enc_hdr hd hnal.length_le
    simp only [List.length_cons, ctxPps, foldPps, entry_enc 8 hd hnal, liftErr]
    rw [if_neg (by omega)]
    cases Pps.parsePps (Ctx.get sm) (NalSrc.srcOfNal [nal] true) with
    | error e => cases e <;> rfl
    | ok pv => exact ih _ (drop_at hd2) hrest

end Avcc
