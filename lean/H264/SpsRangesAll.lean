import H264.SpsC04
/-! C16 for **every** accepted SPS, including the MVC / 3D profile_idc values that C04 sets aside: the range facts do
not depend on which profiles carry the chroma syntax -/
namespace Sps
open Bits

theorem specLists_len (size4 : Nat) (ls : ScalingSyntax) (i : Nat) (x y : List ScalingList)
    (h : specLists size4 i ls = some (x, y)) :
    x.length = min (size4 - i) ls.length ∧ x.length + y.length = ls.length := by
  induction ls generalizing i x y with
  | nil => cases h; simp
  | cons sl rest ih =>
    by_cases hi : i < size4 <;>
    · simp only [specLists, hi, ↓reduceIte, Option.bind_eq_some_iff, Option.map_eq_some_iff] at h
      obtain ⟨r, -, ⟨px, py⟩, hr, hxy⟩ := h
      cases hxy
      obtain ⟨a, b⟩ := ih (i+1) px py hr
      simp only [List.length_cons]
      constructor <;> omega

/-- bit depths at most 14 and scaling-list counts matching the chroma format, whether or not the chroma syntax is there -/
theorem ChromaInfo.WFIf.ranges {has : Bool} {c : ChromaInfo} {sm} (h : c.WFIf has sm) :
    c.bitDepthLumaMinus8 ≤ 6 ∧ c.bitDepthChromaMinus8 ≤ 6 ∧
    ∀ m, c.scalingMatrix = some m → m.l4x4.length = 6 ∧ m.l8x8.length = if c.chromaFormat = .yuv444 then 6 else 2 := by
  cases has
  · cases (h : c = {}); exact ⟨by decide, by decide, nofun⟩
  · obtain ⟨-, hcf, -, hl, hc, hm⟩ := h
    refine ⟨hl, hc, fun m hmm => ?_⟩
    cases sm with
    | none => cases hmm.symm.trans (hm : c.scalingMatrix = none)
    | some ls =>
      obtain ⟨hlen, -, x, y, hs, hxy⟩ := hm
      cases hmm.symm.trans hxy
      obtain ⟨lx, lxy⟩ := specLists_len 6 ls 0 x y hs
      have h444 : c.chromaFormat = .yuv444 ↔ chromaFormatIdc c.chromaFormat = 3 := by
        constructor
        · intro h; rw [h]; rfl
        · intro h; rw [hcf, h]; rfl
      simp only [h444]
      by_cases h3 : chromaFormatIdc c.chromaFormat = 3 <;> simp only [h3, ↓reduceIte] at hlen ⊢ <;> omega

/-- the ranges of `Sps.WF` that do not concern the chroma syntax -/
def Sps.RangesCore (v : Sps) : Prop :=
  v.profileIdc < 256 ∧ v.constraintFlags < 256 ∧ v.levelIdc < 256 ∧ v.spsId ≤ 31 ∧
  v.log2MaxFrameNumMinus4 ≤ 12 ∧ v.picOrderCnt.WF ∧
  Ue v.maxNumRefFrames ∧ Ue v.picWidthInMbsMinus1 ∧ Ue v.picHeightInMapUnitsMinus1 ∧
  (match v.frameCropping with | none => True | some c => Ue c.left ∧ Ue c.right ∧ Ue c.top ∧ Ue c.bottom) ∧
  (match v.vui with | none => True | some u => u.WF v.maxNumRefFrames)

theorem Sps.RangesCore.offs_le {v : Sps} (h : v.RangesCore) {f a b offs}
    (hv : v.picOrderCnt = .typeOne f a b offs) : offs.length ≤ 255 := by
  obtain ⟨-, -, -, -, -, hpoc, -⟩ := h
  rw [hv] at hpoc; exact hpoc.2.2.1

theorem Sps.RangesCore.cpb_le {v : Sps} (h : v.RangesCore) {u : Vui} {hrd : Hrd} (hu : v.vui = some u)
    (hh : u.nalHrd = some hrd ∨ u.vclHrd = some hrd) : 1 ≤ hrd.cpbSpecs.length ∧ hrd.cpbSpecs.length ≤ 32 := by
  obtain ⟨-, -, -, -, -, -, -, -, -, -, hvui⟩ := h
  rw [hu] at hvui
  obtain ⟨-, -, -, -, hn, hvc, -⟩ := hvui
  rcases hh with hh | hh
  · rw [hh] at hn; exact ⟨hn.2.2.1, hn.2.2.2.1⟩
  · rw [hh] at hvc; exact ⟨hvc.2.2.1, hvc.2.2.2.1⟩

/-- **C16 (SPS), every profile_idc**: whatever the SPS parser accepts is within the documented bounds and must have seen
the end of the RBSP -/
theorem parseSps_ranges_all (s s' : Src) (v : Sps) (h : parseSps s = .ok (v, s')) :
    v.RangesCore ∧ v.chromaInfo.bitDepthLumaMinus8 ≤ 6 ∧ v.chromaInfo.bitDepthChromaMinus8 ≤ 6 ∧
    (∀ m, v.chromaInfo.scalingMatrix = some m →
      m.l4x4.length = 6 ∧ m.l8x8.length = if v.chromaInfo.chromaFormat = .yuv444 then 6 else 2) ∧ s.fin = .eof := by
  obtain ⟨⟨sm, z, ⟨a1, a2, a3, a4, wci, a5, a6, a7, a8, a9, a10, a11⟩, -⟩, he, -⟩ := (parseSps_iff s v s').1 h
  obtain ⟨b1, b2, b3⟩ := wci.ranges
  refine ⟨⟨a1, a2, a3, a4, a5, a6, a7, a8, a9, ?_, ?_⟩, b1, b2, b3, he⟩
  · revert a10; cases v.frameCropping <;> exact id
  · revert a11; cases v.vui <;> exact id

end Sps
