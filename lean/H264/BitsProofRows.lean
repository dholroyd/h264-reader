import H264.BitsProof
import H264.TableEq
/-! The 24 sources of one first byte are 3 second bytes × 8 bit offsets of one 16-bit string. Written that way the three
strings are closed terms that the eight offsets share, and the kernel evaluates each once (it caches the normal forms
of closed terms); as `srcAt b0 j` with `j / 8` and `j % 8` inside they are 24 different terms. -/
namespace BitsProof
open Bits

theorem srcAt_split (b0 q o : Nat) (ho : o < 8) :
    srcAt b0 (8 * q + o) = ⟨(encBits 8 b0 ++ encBits 8 (secondBytes.getD q 0)).drop o, .eof⟩ := by
  rw [srcAt, Nat.mul_add_div (by decide), Nat.mul_add_mod, Nat.div_eq_of_lt ho, Nat.mod_eq_of_lt ho, Nat.add_zero]

theorem rows_split {α} (row : Nat → Nat → α) (on : Src → α) (h : ∀ b0 j, row b0 j = on (srcAt b0 j)) :
    (List.range 256).map (fun b0 => (List.range 24).map (row b0)) =
      (List.range 256).map fun b0 => (List.range 3).flatMap fun q => (List.range 8).map fun o =>
        on ⟨(encBits 8 b0 ++ encBits 8 (secondBytes.getD q 0)).drop o, .eof⟩ := by
  refine List.map_congr_left fun b0 _ => ?_
  rw [map_range_mul 3 8, List.flatMap_def, List.flatMap_def]
  refine congrArg List.flatten (List.map_congr_left fun q _ => List.map_congr_left fun o ho => ?_)
  rw [h, srcAt_split b0 q o (List.mem_range.1 ho)]

end BitsProof
