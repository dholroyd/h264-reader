import H264.PpsCodes
/-! C05 (forward): a PPS within the standard's ranges, encoded by `encPps` against its SPS and followed by the trailing
bits, parses to itself. -/
namespace Pps
open Bits Sps

/-- the standard's ranges of a PPS, w.r.t. the SPS it refers to (`sm`: the coded scaling lists, of which the value keeps
the derived matrix) -/
def Pps.WF (s : Sps.Sps) (v : Pps) (sm : Option ScalingSyntax) : Prop :=
  v.ppsId ≤ 255 ∧ v.spsId ≤ 31 ∧
  (match v.sliceGroups with | none => True | some g => g.WF s) ∧
  v.numRefIdxL0DefaultActiveMinus1 ≤ 31 ∧ v.numRefIdxL1DefaultActiveMinus1 ≤ 31 ∧
  v.weightedBipredIdc < 4 ∧
  -(26 + 6 * (s.chromaInfo.bitDepthLumaMinus8 : Int)) ≤ v.picInitQpMinus26 ∧ v.picInitQpMinus26 ≤ 25 ∧
  -26 ≤ v.picInitQsMinus26 ∧ v.picInitQsMinus26 ≤ 25 ∧
  -12 ≤ v.chromaQpIndexOffset ∧ v.chromaQpIndexOffset ≤ 12 ∧
  (match v.extension with | none => True | some e => e.WF s sm)

/-- **C05 (forward)**: every PPS within the standard's ranges that refers to an SPS present in the context
(whose luma bit depth is within what an accepted SPS has, `hbd`), encoded per 7.3.2.2 and followed by trailing bits, parses to exactly the
encoded values — every slice-group map type with the prescribed number of elements, and the optional tail. -/
theorem C05_forward (spsById : Nat → Option Sps.Sps) (s : Sps.Sps) (v : Pps) (sm : Option ScalingSyntax)
    (hctx : spsById v.spsId = some s) (hbd : s.chromaInfo.bitDepthLumaMinus8 ≤ 6)
    (wf : v.WF s sm) (z : Nat) :
    parsePps spsById ⟨encPps v sm ++ trailing z, .eof⟩ = .ok (v, ⟨[], .eof⟩) := by
  obtain ⟨ppsId, spsId, ec, bf, sg, l0, l1, wp, wb, qp, qs, cq, db, ci, rp, ext⟩ := v
  obtain ⟨w1, w2, w3, w4, w5, w6, w7, w8, w9, w10, w11, w12, w13⟩ := wf
  simp only at hctx w1 w2 w3 w4 w5 w6 w7 w8 w9 w10 w11 w12 w13
  rw [after_start]
  simp only [parsePps, parse_hyp]
  refine ⟨ppsId, by omega, by omega, spsId, by omega, by omega, ?_⟩
  simp only [hctx, parse_hyp, (readSliceGroups_codes s).after_bind_hyp, (readNumRefIdx_codes _).after_bind_hyp]
  -- each field with its range, in program order; then the state in front of the tail
  refine ⟨ec, bf, sg, by cases sg <;> exact w3, l0, w4, l1, w5, wp, wb, w6, qp, by unfold SeRange; omega,
    qs, by unfold SeRange; omega, cq, by unfold SeRange; omega, db, ci, rp,
    ⟨encPpsExtra ext sm ++ trailing z, .eof⟩, ⟨by simp [encPps, List.append_assoc], rfl⟩, ?_⟩
  have nqp : ¬ (qp < -(26 + 6 * (s.chromaInfo.bitDepthLumaMinus8 : Int)) ∨ qp > 25) := by omega
  have nqs : ¬ (qs < -26 ∨ qs > 25) := by omega
  have ncq : ¬ (cq < -12 ∨ cq > 12) := by omega
  simp [readPpsExtra_enc s ext sm w13 z, nqp, nqs, ncq, finishRbsp_trailing]

#print axioms C05_forward
end Pps
