import H264.Derived
import H264.GeneratedSmall
import H264.SpsOfEnc
/-! pixel dimensions over a grid of parsed SPS (C13) on a complete small domain -/
namespace SmallProof
open Bits

def u (n v : Nat) : List Bool := encBits n v

/-- the grid of `tables.rs` (chroma format, frame_mbs_only, width, height, crop setting), in generation order -/
def dimsInputs : List (Nat × Bool × Nat × Nat × Nat) :=
  (List.range 5).flatMap fun cf => [true, false].flatMap fun fmo => (List.range 2).flatMap fun w => (List.range 2).flatMap fun h =>
    (List.range 18).map fun crop => (cf, fmo, w, h, crop)

def dimsRow (x : Nat × Bool × Nat × Nat × Nat) : Nat × Nat × Nat :=
  let (cf, fmo, wmb, hmb, crop) := x
  let idc := if cf = 4 then 3 else cf
  let sep := cf = 4
  let cropBits : List Bool :=
    if crop = 0 then [false]
    else if crop = 17 then [true] ++ encUe 40 ++ encUe 0 ++ encUe 0 ++ encUe 40
    else let c := crop - 1; [true] ++ encUe (c % 2) ++ encUe (c / 2 % 2) ++ encUe (c / 4 % 2) ++ encUe (c / 8 % 2)
  let bits := u 8 100 ++ u 8 0 ++ u 8 30 ++ encUe 0 ++ encUe idc ++ (if idc = 3 then [decide sep] else []) ++ encUe 0 ++ encUe 0 ++ [false, false] ++
    encUe 0 ++ encUe 2 ++ encUe 1 ++ [false] ++ encUe wmb ++ encUe hmb ++ [fmo] ++ (if fmo then [] else [false]) ++ [false] ++ cropBits ++ [false] ++ [true]
  match Sps.parseSps ⟨bits, .eof⟩ with
  | .ok (s, _) => (match Sps.pixelDimensions s with | .ok (a, b) => (1, a, b) | .error _ => (0, 0, 0))
  | .error _ => (9, 9, 9)

open Sps

/-- the SPS that the bit string of `dimsRow` encodes -/
def dimsSps : Nat × Bool × Nat × Nat × Nat → Sps.Sps
  | (cf, fmo, wmb, hmb, crop) =>
    { profileIdc := 100, constraintFlags := 0, levelIdc := 30, spsId := 0,
      chromaInfo := { chromaFormat := .ofIdc (if cf = 4 then 3 else cf), separateColourPlaneFlag := cf = 4 },
      log2MaxFrameNumMinus4 := 0, picOrderCnt := .typeTwo, maxNumRefFrames := 1, gapsInFrameNumValueAllowedFlag := false,
      picWidthInMbsMinus1 := wmb, picHeightInMapUnitsMinus1 := hmb,
      frameMbsFlags := if fmo then .frames else .fields false, direct8x8InferenceFlag := false,
      frameCropping :=
        if crop = 0 then none
        else if crop = 17 then some ⟨40, 0, 0, 40⟩
        else some ⟨(crop - 1) % 2, (crop - 1) / 2 % 2, (crop - 1) / 4 % 2, (crop - 1) / 8 % 2⟩,
      vui := none }

theorem dimsSps_wf {x : Nat × Bool × Nat × Nat × Nat} (hx : x ∈ dimsInputs) : (dimsSps x).WF none := by
  obtain ⟨cf, fmo, wmb, hmb, crop⟩ := x
  simp only [dimsInputs, List.mem_flatMap, List.mem_map, List.mem_range, Prod.mk.injEq] at hx
  rw [Sps.WF_iff]
  simp [dimsSps, Sps.WFIf, ChromaInfo.WFIf, stdHasChromaInfo, chromaFormatIdc_ofIdc, MatrixDerives, PicOrderCntType.WF, Ue,
    apply_ite (OptWF _)]
  split <;> omega

/-- every row of the grid is the standard's encoding of a well-formed SPS, so `C04_forward` gives the parse and only the
dimensions are left to compute -/
theorem dimsRow_eq {x : Nat × Bool × Nat × Nat × Nat} (hx : x ∈ dimsInputs) :
    dimsRow x = match pixelDimensions (dimsSps x) with | .ok (a, b) => (1, a, b) | .error _ => (0, 0, 0) := by
  obtain ⟨cf, fmo, wmb, hmb, crop⟩ := x
  simp only [dimsRow]
  rw [parseSps_of_enc (z := 0) (dimsSps_wf hx) rfl]
  -- left: the row's bit string is `encSps (dimsSps _) none ++ trailing 0`. Both sides are unfolded and right-nested;
  -- the encoders move inside the `if`s first, since their unfolded `match`es would not
  have chroma : stdHasChromaInfo 100 = true := by decide
  simp only [encSps, dimsSps, encChromaInfo, chroma, if_true, chromaFormatIdc_ofIdc, encPicOrderCnt, encVui, trailing, u,
    apply_ite encFrameCropping, apply_ite encFrameMbsFlags]
  simp only [encFrameCropping, encFrameMbsFlags, encBool, List.replicate, List.append_assoc, List.cons_append, List.nil_append]
  -- what remains is the two spellings of the frame / field flags
  cases fmo <;> rfl

/-- model `parseSps` + `pixelDimensions` = real `from_bits` + `pixel_dimensions()` on a grid of 720 SPS (all chroma formats, separate
planes, frame / field coding, crops incl. one that exceeds the picture) -/
theorem dims_model_eq_code : dimsInputs.map dimsRow = Generated.dimsRows := by
  rw [List.map_congr_left fun _ => dimsRow_eq]
  decide +kernel

end SmallProof
