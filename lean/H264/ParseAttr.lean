import Lean.Meta.Tactic.Simp.RegisterCommand
/-- characterisations `After (p >>= f) … ↔ …` of successful runs through the primitives and the control flow (a
structure's `.after_bind` is named in the call) -/
register_simp_attr parse_iff
/-- the same with each condition in front of what follows it: a run read off, or written down, in program order -/
register_simp_attr parse_hyp
