import H264.Tables2
import H264.TableEq
/-! theorems of `Tables2` that belong to C04 (one module per property: DESIGN.md 14.7) -/
namespace Tables2
open Generated

/-- `has_chroma_info` of the running code is the model's list, for all 256 `profile_idc` values -/
theorem hasChroma_eq_model : hasChroma.length = 256 ∧
    ∀ b : Fin 256, hasChroma.getD b.val 9 = (if Sps.hasChromaInfo b.val then 1 else 0) :=
  getD_of_eq_ofFn (by decide +kernel) _

/-- every aspect_ratio_idc is parsed to its own distinct value (nothing is merged, so the coded value is recoverable),
and `get()` is Table E-1; `Extended_SAR` (255) returns the coded pair. The extractor numbers distinct parsed values in
order of first appearance, so "row b has number b" is exactly "no two idc values are parsed to the same value". -/
theorem aspect_table : aspect.length = 256 ∧
    (∀ i j : Fin 256, (aspect.getD i.val (999,0,0)).1 = (aspect.getD j.val (999,0,0)).1 → i = j) ∧
    (∀ b : Fin 256, (aspect.getD b.val (999,0,0)).1 < 998) ∧
    (∀ b : Fin 256, (aspect.getD b.val (999,0,0)).2 = (if b.val = 255 then (0x1234, 0x0567) else tableE1 b.val)) := by
  have h := getD_of_eq_ofFn (T := aspect) (f := fun b : Fin 256 => (b.val, if b.val = 255 then (0x1234, 0x0567) else tableE1 b.val))
    (by decide +kernel) (999,0,0)
  refine ⟨h.1, fun i j e => ?_, fun b => ?_, fun b => by rw [h.2]⟩
  · rw [h.2 i, h.2 j] at e; exact Fin.ext e
  · rw [h.2 b]; omega

/-- the 3-bit `video_format` values are parsed to eight distinct values -/
theorem videoFormat_injective : videoFormat.length = 8 ∧
    (∀ i j : Fin 8, videoFormat.getD i.val 999 = videoFormat.getD j.val 999 → i = j) ∧
    (∀ i : Fin 8, videoFormat.getD i.val 999 < 998) := by
  decide +kernel

/-- `chroma_format_idc` 0…3 are accepted and parsed to four distinct values -/
theorem chromaFormat_table : chromaFormat.length = 16 ∧
    (∀ i : Fin 4, (chromaFormat.getD i.val (0,0)).1 = 1) ∧
    (∀ i j : Fin 4, (chromaFormat.getD i.val (0,0)).2 = (chromaFormat.getD j.val (0,0)).2 → i = j) := by
  decide +kernel

end Tables2
