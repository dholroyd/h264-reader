import H264.Accum
/-! Corollaries of `Accum.run_spec` spelled out per NAL (C08) -/
namespace Accum

def bytesOf (steps : List Step) : List UInt8 := (steps.map fun s => s.bufs.flatten).flatten

/-- deliveries that do not end the NAL, all answered `Buffer`: no complete invocation, the ghost accumulates -/
theorem specRun_open_buffer (g : Ghost) (pre rest : List Step)
    (hpre : ∀ s ∈ pre, s.fin = false ∧ s.answer = .buffer) :
    ∃ l, specRun g (pre ++ rest) = l ++ specRun ⟨g.soFar ++ bytesOf pre, g.ignored⟩ rest ∧ ∀ e ∈ l, e.2 = false := by
  induction pre generalizing g with
  | nil => exact ⟨[], by simp [bytesOf], by simp⟩
  | cons s ss ih =>
    obtain ⟨⟨hf, ha⟩, hss⟩ := List.forall_mem_cons.mp hpre
    have hg : ∀ b, ghostStep g s b = ⟨g.soFar ++ s.bufs.flatten, g.ignored⟩ := fun b => by simp [ghostStep, hf, ha]
    obtain ⟨l, hl, hfl⟩ := ih ⟨g.soFar ++ s.bufs.flatten, g.ignored⟩ hss
    refine ⟨(if (!g.ignored && !(g.soFar ++ s.bufs.flatten).isEmpty) then [(g.soFar ++ s.bufs.flatten, s.fin)] else []) ++ l, ?_, ?_⟩
    · rw [List.cons_append, specRun, hg, hl]
      simp only [bytesOf, List.map_cons, List.flatten_cons, List.append_assoc]
    · intro e he
      rcases List.mem_append.mp he with he | he
      · split at he
        · rw [List.mem_singleton.mp he]; exact hf
        · cases he
      · exact hfl e he

/-- **exactly one complete invocation carrying the whole NAL**, for a NAL with at least one byte that is never ignored -/
theorem one_complete_invocation (pre : List Step) (last : Step)
    (hpre : ∀ s ∈ pre, s.fin = false ∧ s.answer = .buffer) (hlast : last.fin = true)
    (hne : bytesOf (pre ++ [last]) ≠ []) (rest : List Step) :
    ∃ l, specRun ⟨[], false⟩ (pre ++ last :: rest) = l ++ (bytesOf (pre ++ [last]), true) :: specRun ⟨[], false⟩ rest ∧
      ∀ e ∈ l, e.2 = false := by
  obtain ⟨l, hl, hfl⟩ := specRun_open_buffer ⟨[], false⟩ pre (last :: rest) hpre
  refine ⟨l, ?_, hfl⟩
  have hb : bytesOf (pre ++ [last]) = bytesOf pre ++ last.bufs.flatten := by simp [bytesOf]
  rw [hb] at hne
  have hne' : (bytesOf pre ++ last.bufs.flatten).isEmpty = false := List.isEmpty_eq_false_iff.mpr hne
  rw [hl, hb]
  simp [specRun, ghostStep, hlast, hne']

/-- **after Ignore the handler is not invoked again for that NAL**: an ignored NAL produces no invocation until it ends,
and the next NAL starts clean -/
theorem ignored_is_silent (sofar : List UInt8) (pre : List Step) (last : Step) (rest : List Step)
    (hpre : ∀ s ∈ pre, s.fin = false) (hlast : last.fin = true) :
    specRun ⟨sofar, true⟩ (pre ++ last :: rest) = specRun ⟨[], false⟩ rest := by
  induction pre generalizing sofar with
  | nil => simp [specRun, ghostStep, hlast]
  | cons s ss ih =>
    obtain ⟨hf, hss⟩ := List.forall_mem_cons.mp hpre
    simp [specRun, ghostStep, hf, ih _ hss]

/-- **nothing carries over**: whatever the state, a delivery that ends the NAL leaves the freshly constructed state -/
theorem frag_end_init (a : Acc) (bufs : List (List UInt8)) (d : Invocation → Interest) :
    (frag a bufs true d).1 = init := by
  rcases frag_cases a bufs true d with ⟨_, hf⟩ | ⟨h, _, hf⟩ | ⟨_, _, _, _, hf⟩
  · rw [hf]; rfl
  · rw [hf]; exact h
  · rw [hf]; rfl

end Accum
