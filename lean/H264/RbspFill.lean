import H264.RbspTryFill
namespace Rbsp

theorem fillLoop_spec (fuel : Nat) (r : BR) (hinv : Inv r) (hfuel : measure r < fuel ∨ r.i ≠ 0) :
    Inv (fillLoop fuel r).1 ∧ view (fillLoop fuel r).1 = view r ∧
    (fillLoop fuel r).1.inner.complete = r.inner.complete ∧ (fillLoop fuel r).1.maxFill = r.maxFill ∧
    (match (fillLoop fuel r).2 with
     | .ok () => (fillLoop fuel r).1.i ≠ 0 ∨
          ((fillLoop fuel r).1.i = 0 ∧ (fillLoop fuel r).1.inner.cur = [] ∧ r.inner.complete = true)
     | .error .wouldBlock => (fillLoop fuel r).1.i = 0 ∧ (fillLoop fuel r).1.inner.cur = [] ∧ r.inner.complete = false
     | .error .invalidData => (view r).2 = false
     | .error .eof => False) := by
  induction fuel generalizing r with
  | zero =>
    rcases hfuel with h | h
    · omega
    · simp [fillLoop, hinv, h]
  | succ fuel ih =>
    unfold fillLoop
    by_cases hi : r.i ≠ 0
    · simp [hi, hinv]
    have hi0 : r.i = 0 := by omega
    simp only [hi, ↓reduceIte]
    have ht := tryFill_spec r hinv hi0
    generalize tryFill r = x at ht ⊢
    obtain ⟨r', k | more⟩ := x <;> dsimp only at ht ⊢ <;> obtain ⟨t1, t2, t3, t4, t5⟩ := ht
    · cases k
      · exact absurd t5 id
      · obtain ⟨rfl, h2, h3⟩ := t5; exact ⟨hinv, rfl, rfl, rfl, hi0, h2, h3⟩
      · exact ⟨t1, t2, t3, t4, t5⟩
    · cases more
      · obtain ⟨rfl, h2, h3⟩ := t5; exact ⟨hinv, rfl, rfl, rfl, .inr ⟨hi0, h2, h3⟩⟩
      · -- a productive iteration lowers the measure unless it ends the loop
        have hf : measure r < fuel + 1 := hfuel.resolve_right (not_not_intro hi0)
        obtain ⟨u1, u2, u3, u4, u5⟩ := ih r' t1 (t5.imp_left fun h => by omega)
        refine ⟨u1, u2.trans t2, u3.trans t3, u4.trans t4, ?_⟩
        rw [t3, t2] at u5
        exact u5

theorem measure_lt_fuelFor (r : BR) : measure r < fuelFor r := by
  unfold measure fuelFor; split <;> omega

theorem view_of_cur_nil {r : BR} (hinv : Inv r) (h0 : r.i = 0) (hcur : r.inner.cur = []) : view r = ([], true) := by
  simp [view, Chunked.rest, h0, hcur, hinv.1.2 hcur, unescFrom_nil]

/-- `fill_buf`: returns a prefix of the view; empty only at a genuine end; never moves the view -/
theorem fillBuf_spec (r : BR) (hinv : Inv r) :
    Inv (fillBuf r).1 ∧ view (fillBuf r).1 = view r ∧
    (fillBuf r).1.inner.complete = r.inner.complete ∧ (fillBuf r).1.maxFill = r.maxFill ∧
    (match (fillBuf r).2 with
     | .ok buf => buf = (fillBuf r).1.inner.cur.take (fillBuf r).1.i ∧ buf <+: (view r).1 ∧
          (buf = [] → (view r) = ([], true) ∧ r.inner.complete = true)
     | .error .wouldBlock => r.inner.complete = false ∧ (view r) = ([], true)
     | .error .invalidData => (view r).2 = false
     | .error .eof => False) := by
  have hl := fillLoop_spec (fuelFor r) r hinv (Or.inl (measure_lt_fuelFor r))
  unfold fillBuf
  generalize fillLoop (fuelFor r) r = x at hl ⊢
  obtain ⟨r', k | ⟨⟩⟩ := x <;> dsimp only at hl ⊢ <;> obtain ⟨l1, l2, l3, l4, l5⟩ := hl
  · cases k
    · exact absurd l5 id
    · exact ⟨l1, l2, l3, l4, l5.2.2, l2 ▸ view_of_cur_nil l1 l5.1 l5.2.1⟩
    · exact ⟨l1, l2, l3, l4, l5⟩
  · rcases l5 with hne | ⟨h0, hcur, hcomp⟩
    · -- `i ≠ 0`, so `cur` is non-empty and the inner `fill_buf` succeeds
      have hcurne : r'.inner.cur ≠ [] := fun h => hne (by have := l1.2.1; rw [h] at this; exact Nat.le_zero.mp this)
      rw [show r'.inner.fillBuf = .ok r'.inner.cur by simp [Chunked.fillBuf, hcurne]]
      refine ⟨l1, l2, l3, l4, rfl, l2 ▸ List.prefix_append _ _, fun h => ?_⟩
      rcases List.take_eq_nil_iff.mp h with h2 | h2
      · exact absurd h2 hne
      · exact absurd h2 hcurne
    · rw [show r'.inner.fillBuf = .ok [] by simp [Chunked.fillBuf, hcur, l3, hcomp]]
      exact ⟨l1, l2, l3, l4, by rw [hcur], by simp, fun _ => ⟨l2 ▸ view_of_cur_nil l1 h0 hcur, hcomp⟩⟩

/-- `consume amt` (within the contract `amt ≤ i`) drops exactly `amt` bytes from the view -/
theorem consume_spec (r : BR) (hinv : Inv r) (amt : Nat) (hamt : amt ≤ r.i) :
    Inv (consume r amt) ∧ view (consume r amt) = ((view r).1.drop amt, (view r).2) ∧
    (consume r amt).inner.complete = r.inner.complete ∧ (consume r amt).maxFill = r.maxFill := by
  obtain ⟨hwf, hile, hmf, hskip⟩ := hinv
  obtain ⟨c1, c2, c3⟩ := Chunked.consume_rest r.inner amt hwf (Nat.le_trans hamt hile)
  obtain ⟨t, ht⟩ := Chunked.consume_cur r.inner amt
  have hlen : r.i - amt ≤ (r.inner.cur.drop amt).length := by rw [List.length_drop]; omega
  refine ⟨⟨c2, ?_, hmf, fun n hn => ?_⟩, ?_, c3, rfl⟩
  · show r.i - amt ≤ (r.inner.consume amt).cur.length
    rw [← ht, List.length_append]; omega
  · obtain ⟨h0, h1⟩ := hskip n hn
    exact ⟨by simp [consume, h0], h1⟩
  · simp only [view, consume, c1]
    rw [← ht, List.take_append_of_le_length hlen, ← List.drop_take, List.drop_drop,
      List.drop_append_of_le_length (by rw [List.length_take]; omega), Nat.add_sub_cancel' hamt]

end Rbsp
