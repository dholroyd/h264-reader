import H264.GeneratedTables
import H264.TableEq
/-! theorems over the function graphs extracted from the running code: NAL header bytes and unit types (one module per property: DESIGN.md 14.7) -/
namespace C20
open Generated

/-- all 256 header bytes: refused exactly when the top bit is set; otherwise ref_idc / type are bits 5–6 / 0–4 -/
theorem header_bytes : hdr.length = 256 ∧ ∀ b : Fin 256,
    (hdr.getD b.val (9,9,9)).1 = (if b.val ≥ 128 then 0 else 1) ∧
    (b.val < 128 → (hdr.getD b.val (9,9,9)).2.1 = b.val / 32 % 4 ∧ (hdr.getD b.val (9,9,9)).2.2 = b.val % 32) := by
  have hl : hdr.length = 256 := by decide +kernel
  exact ⟨hl, forall_getD_of_zipIdx hl _
    (P := fun b x => x.1 = (if b ≥ 128 then 0 else 1) ∧ (b < 128 → x.2.1 = b / 32 % 4 ∧ x.2.2 = b % 32))
    (by decide +kernel)⟩

/-- unit type ids 0…31 are accepted, map to pairwise distinct values, each returning its own id; > 31 rejected -/
theorem unit_types : unitType.length = 256 ∧
    (∀ i : Fin 256, (unitType.getD i.val (9,9,9)).1 = (if i.val ≤ 31 then 1 else 0)) ∧
    (∀ i : Fin 32, (unitType.getD i.val (9,9,9)).2.2 = i.val) ∧
    (∀ i j : Fin 32, (unitType.getD i.val (9,9,9)).2.1 = (unitType.getD j.val (9,9,9)).2.1 → i = j) := by
  have hl : unitType.length = 256 := by decide +kernel
  exact ⟨hl, forall_getD_of_zipIdx hl _ (P := fun i x => x.1 = (if i ≤ 31 then 1 else 0)) (by decide +kernel),
    by decide +kernel, by decide +kernel⟩

end C20
