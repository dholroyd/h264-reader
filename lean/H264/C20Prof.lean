import H264.GeneratedTables
import H264.TableEq
/-! theorems over the function graphs extracted from the running code: profile_idc and (constraint flags, level_idc) round trips (one module per property: DESIGN.md 14.7) -/
namespace C20
open Generated

/-- profile_idc → Profile → profile_idc is the identity on all 256 values -/
theorem profile_roundtrip : profileRoundTrip.length = 256 ∧ ∀ b : Fin 256, profileRoundTrip.getD b.val 999 = b.val :=
  getD_of_eq_ofFn (by decide +kernel) _

def level (f l : Nat) : Nat × Nat := (levelRows.getD (levelRowIdx.getD f 99) []).getD l (999, 9)

theorem level_rows : levelRowIdx.length = 256 ∧ levelRows.length = 2 ∧
    (∀ f : Fin 256, levelRowIdx.getD f.val 99 = f.val / 16 % 2) ∧
    (∀ l : Fin 256, (levelRows.getD 0 []).getD l.val (999,9) = (l.val, 0)) ∧
    (∀ l : Fin 256, (levelRows.getD 1 []).getD l.val (999,9) = (l.val, if l.val = 11 then 1 else 0)) :=
  have hidx := getD_of_eq_ofFn (T := levelRowIdx) (by decide +kernel) _
  ⟨hidx.1, by decide +kernel, hidx.2, (getD_of_eq_ofFn (by decide +kernel) _).2, (getD_of_eq_ofFn (by decide +kernel) _).2⟩

/-- all 2¹⁶ (flags, level_idc) pairs: the idc is recovered; level 1b ⇔ idc 11 ∧ constraint flag 3 -/
theorem level_roundtrip (f l : Fin 256) :
    (level f.val l.val).1 = l.val ∧ ((level f.val l.val).2 = 1 ↔ (l.val = 11 ∧ f.val / 16 % 2 = 1)) := by
  obtain ⟨_, _, hidx, h0, h1⟩ := level_rows
  unfold level
  rw [hidx f]
  have hb : f.val / 16 % 2 = 0 ∨ f.val / 16 % 2 = 1 := by omega
  rcases hb with hb | hb
  · rw [hb, h0 l]; simp
  · rw [hb, h1 l]; by_cases h11 : l.val = 11 <;> simp [h11]

/-- Table A-1: exactly the level_idc values 10, 11, 12, 13, 20, 21, 22, 30, 31, 32, 40, 41, 42, 50, 51, 52, 60, 61, 62 are named levels
(whatever the constraint flags); every other value is carried as `Unknown(idc)` -/
theorem level_known : levelKnown.length = 256 ∧ ∀ l : Fin 256,
    levelKnown.getD l.val 9 = (if [10, 11, 12, 13, 20, 21, 22, 30, 31, 32, 40, 41, 42, 50, 51, 52, 60, 61, 62].contains l.val then 1 else 0) :=
  getD_of_eq_ofFn (by decide +kernel) _

end C20
