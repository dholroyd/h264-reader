import H264.SpsStd
import H264.C14
import H264.Codes
/-! The RBSP trailing bits (`trailing z`: the stop bit and `z` alignment zeros) against the end predicates, as the SPS
and PPS parsers meet them: `finishRbsp` accepts exactly them, `hasMore` is false exactly in front of them. -/
namespace Sps
open Bits

theorem finishRbsp_trailing (z : Nat) :
    finishRbsp ⟨trailing z, .eof⟩ = .ok ((), ⟨[], .eof⟩) :=
  (finishRbsp_iff _ _).2 ⟨⟨z, rfl⟩, rfl, rfl⟩

theorem finishRbsp_exact (s s' : Src) (h : finishRbsp s = .ok ((), s')) :
    s.fin = .eof ∧ ∃ z, s.bits = trailing z :=
  have ⟨hz, he, _⟩ := (finishRbsp_iff s s').1 h
  ⟨he, hz⟩

theorem after_finishRbsp {α} (a : α) (s0 : Src) (pre : List Bool) (v : α) (s' : Src) :
    After (finishRbsp >>= fun _ => pure a) s0 pre (v, s') ↔
      v = a ∧ (∃ z, s0.bits = pre ++ trailing z) ∧ s0.fin = .eof ∧ s' = ⟨[], .eof⟩ := by
  constructor
  · rintro ⟨s1, c, h⟩
    obtain ⟨⟨⟩, s2, hf, h⟩ := (bind_ok_iff _ _ _ _).1 h
    cases h
    obtain ⟨⟨z, hz⟩, he, rfl⟩ := (finishRbsp_iff _ _).1 hf
    exact ⟨rfl, ⟨z, by rw [c.1, hz]; rfl⟩, by rw [← c.2, he], rfl⟩
  · rintro ⟨rfl, ⟨z, hz⟩, he, rfl⟩
    exact ⟨⟨trailing z, .eof⟩, ⟨hz, he.symm⟩,
      (bind_ok_iff _ _ _ _).2 ⟨(), _, (finishRbsp_iff _ _).2 ⟨⟨z, rfl⟩, rfl, rfl⟩, rfl⟩⟩

end Sps

namespace Pps
open Bits Sps

theorem any_replicate_false (z : Nat) : (List.replicate z false).any id = false :=
  (any_id_eq_false _).2 ⟨z, rfl⟩

theorem hasMore_trailing (name) (z : Nat) :
    hasMore name ⟨trailing z, .eof⟩ = .ok (false, ⟨trailing z, .eof⟩) := by
  simp [hasMore_iff, trailing]

theorem hasMore_before_trailing (name) (b : Bool) (xs : List Bool) (z : Nat) :
    hasMore name ⟨b :: (xs ++ trailing z), .eof⟩ = .ok (true, ⟨b :: (xs ++ trailing z), .eof⟩) := by
  simp [hasMore_iff, trailing]

theorem hasMore_ok (name) (s s' : Src) (b : Bool) (h : hasMore name s = .ok (b, s')) :
    s' = s ∧ (b = false → s.fin = .eof ∧ (s.bits.drop 1).any id = false) := by
  obtain ⟨rfl, h⟩ := (hasMore_iff name s s' b).1 h
  refine ⟨rfl, ?_⟩
  rintro rfl
  split at h
  · cases h
  · exact ⟨h.2, Bool.eq_false_iff.2 ‹_›⟩

end Pps
