import H264.Gen
import H264.Render2
import H264.SliceStd
import H264.PpsStd
/-! Lean-side generators for PPS and slice headers: values drawn inside the standard's ranges (`Pps.WF`, `SliceWF`),
encoded with the spec encoders `encPps` / `encSliceHeader` (the ones the forward theorems are about), emitted together
with the expected observation. A drawn value is kept only if the *model* parser returns it on its own encoding — by
the forward theorems that holds for every WF value, so a discarded draw means the generator left the WF domain. -/
namespace Gen
open Sps Bits Pps Slice

instance : Inhabited FieldPic := ⟨.frame⟩

def intIn (lo hi : Int) : G Int := do
  let k ← nat 5
  if k = 0 then pure lo else if k = 1 then pure hi
  else do let v ← nat (hi - lo + 1).toNat; pure (lo + v)

def genSliceGroup (s : Sps.Sps) : G SliceGroup := do
  let size := Pps.picSizeInMapUnits s
  let w := Pps.picWidthInMbs s
  let hgt := s.picHeightInMapUnitsMinus1 + 1
  let t ← nat 7
  let n ← pick [1, 2, 3, 7]
  let small (m : Nat) : G Nat := do let k ← nat 5; if k = 0 then pure (m - 1) else nat (min m 50)
  if t = 0 then do pure (.interleaved (← listOf (n + 1) (small size)))
  else if t = 1 then pure (.dispersed n)
  else if t = 2 then do
    let rects ← listOf n (do
      let x1 ← nat (min w 8); let x2 ← nat (min w 8); let y1 ← nat (min hgt 8); let y2 ← nat (min hgt 8)
      let (xa, xb) := (min x1 x2, max x1 x2); let (ya, yb) := (min y1 y2, max y1 y2)
      pure (ya * w + xa, yb * w + xb))
    pure (.foregroundAndLeftover rects)
  else if t ≤ 5 then do pure (.changing t n (← flag) (← small size))
  else do
    let cnt ← pick [1, 2, 5, 12, 40]
    let ids ← listOf cnt (nat (2 ^ groupIdBits n))
    pure (.explicitAssignment n ids)

def genPps (s : Sps.Sps) : G (Pps × Option ScalingSyntax) := do
  let ppsId ← pick [0, 1, 2, 255]
  let sg ← (do let k ← nat 3; if k = 0 then (do pure (some (← genSliceGroup s))) else pure none)
  let l0 ← pick [0, 1, 3, 31]; let l1 ← pick [0, 1, 3, 31]
  let qp ← intIn (-(26 + 6 * (s.chromaInfo.bitDepthLumaMinus8 : Int))) 25
  let qs ← intIn (-26) 25
  let cq ← intIn (-12) 12
  let hasExt ← flag
  let t ← flag
  let smPresent ← (do let k ← nat 3; pure (decide (k = 0)))
  let count := 6 + count8 s t
  let sm : Option ScalingSyntax ← if hasExt && smPresent then
      (do let l ← (List.range count).mapM fun i => genDeltas (if i < 6 then 16 else 64); pure (some l)) else pure none
  let matrix : Option PicScalingMatrix := sm.map fun ls =>
    let y := (ls.drop 6).map (deriveList 64)
    ⟨(ls.take 6).map (deriveList 16), if y.isEmpty then none else some y⟩
  let ext : Option PpsExtra ← if hasExt then (do pure (some ⟨t, matrix, ← intIn (-12) 12⟩)) else pure none
  let v : Pps := ⟨ppsId, s.spsId, ← flag, ← flag, sg, l0, l1, ← flag, ← nat 3, qp, qs, cq, ← flag, ← flag,
    (← nat 4) = 0, ext⟩
  pure (v, if hasExt then sm else none)

def padBits (bits : List Bool) (z : Nat) : List Bool :=
  let pad := (8 - bits.length % 8) % 8
  bits ++ List.replicate (pad + z) false

/-- `pps <hex> | expected`, or `none` if the draw is rejected by the model filter -/
def ppsCase (s : Sps.Sps) : G (Option (Pps × String × String)) := do
  let (v, sm) ← genPps s
  let z ← pick [0, 0, 8]
  let bits := padBits (encPps v sm ++ trailing 0) z
  let ok := match parsePps (fun i => if i = s.spsId then some s else none) ⟨bits, .eof⟩ with
    | .ok (v', _) => decide (v' = v)
    | .error _ => false
  if ok then pure (some (v, s!"pps {hexOfNats (bytesOfBits bits)}", s!"Ok({Render.pps v})")) else pure none

def genModOps : G (List ModOp) := do
  let n ← nat 4
  listOf n (do let k ← nat 3; let v ← ueVal; pure (if k = 0 then ModOp.subtract v else if k = 1 then .add v else .longTermRef v))

def genMmcos : G (List Mmco) := do
  let n ← nat 4
  listOf n (do
    let k ← nat 6; let a ← ueVal; let b ← ueVal
    pure (match k with | 0 => Mmco.shortTermUnused a | 1 => .longTermUnused a | 2 => .shortTermToLongTerm a b
                       | 3 => .maxLongTermIdx a | 4 => .allUnused | _ => .currentToLongTerm a))

def genSlice (s : Sps.Sps) (p : Pps.Pps) : G (NalHdr × SliceHeader × Extra) := do
  let st0 ← nat 10
  let st := if familyOf st0 = .B ∧ p.weightedBipredIdc = 1 then 2 else st0     -- explicit weighted B: unsupported
  let fam := familyOf st
  let nalType ← pick [1, 5]
  let refIdc ← nat 4
  let hdr : NalHdr := ⟨refIdc, nalType⟩
  let colourPlane ← if s.chromaInfo.separateColourPlaneFlag then (do pure (some (← nat 3))) else pure none
  let frameNum ← nat (2 ^ (s.log2MaxFrameNumMinus4 + 4))
  let fieldPic ← match s.frameMbsFlags with
    | .frames => pure FieldPic.frame
    | .fields _ => pick [FieldPic.frame, .top, .bottom]
  let idr ← if nalType = 5 then (do pure (some (← ueVal))) else pure none
  let bottomCoded := p.bottomFieldPicOrderInFramePresentFlag && fieldPic == .frame
  let poc ← match s.picOrderCnt with
    | .typeZero l => do
        let lsb ← nat (2 ^ (l + 4))
        if bottomCoded then (do pure (some (PicOrderCountLsb.fieldsAbsolute lsb (← seVal 10)))) else pure (some (.frame lsb))
    | .typeOne az _ _ _ =>
        if az then pure (some (PicOrderCountLsb.fieldsDelta 0 0)) else do
          let d0 ← seVal 10
          if bottomCoded then (do pure (some (PicOrderCountLsb.fieldsDelta d0 (← seVal 10)))) else pure (some (.fieldsDelta d0 0))
    | .typeTwo => pure none
  let redundant ← if p.redundantPicCntPresentFlag then (do pure (some (← nat 128))) else pure none
  let direct ← if fam = .B then (do pure (some (← flag))) else pure none
  let override ← flag
  let nra ← if (fam = .P ∨ fam = .SP ∨ fam = .B) ∧ override then
      (do let a ← pick [0, 1, 2, 31]; let b ← pick [0, 1, 31]
          pure (some (if fam = .B then NumRefIdxActive.B a b else .P a)))
    else pure none
  let mods ← match fam with
    | .I | .SI => pure RefPicListMods.I
    | .B => do pure (RefPicListMods.B (← genModOps) (← genModOps))
    | _ => do pure (RefPicListMods.P (← genModOps))
  let chroma := isChroma s
  let pwt ← if pwtPresent fam p then (do
      let cnt := effectiveL0 p nra + 1
      let lw ← listOf cnt (optOf (do pure (← seVal 128, ← seVal 128)))
      let cw ← if chroma then listOf cnt (do
          let f ← flag
          if f then (do pure [(← seVal 128, ← seVal 128), (← seVal 128, ← seVal 128)]) else pure [])
        else pure []
      let cd ← if chroma then (do pure (some (← nat 8))) else pure none
      pure (some (⟨← nat 8, cd, lw, cw⟩ : PredWeightTable))) else pure none
  let marking ← if refIdc = 0 then pure none
    else if nalType = 5 then (do pure (some (DecRefPicMarking.idr (← flag) (← flag))))
    else (do let f ← flag; if f then (do pure (some (DecRefPicMarking.adaptive (← genMmcos)))) else pure (some .slidingWindow))
  let cabac ← if p.entropyCodingModeFlag ∧ fam ≠ .I ∧ fam ≠ .SI then (do pure (some (← nat 3))) else pure none
  let qpd ← intIn (-51) 51
  let swFlag ← flag
  let qsd ← intIn (-26 - p.picInitQsMinus26) (25 - p.picInitQsMinus26)
  let (sw, qs) := if fam = .SP ∨ fam = .SI then
      ((if fam = .SP then some swFlag else none), some (26 + p.picInitQsMinus26 + qsd).toNat) else (none, none)
  let dbIdc ← if p.deblockingFilterControlPresentFlag then nat 3 else pure 0
  let alpha ← intIn (-6) 6
  let beta ← intIn (-6) 6
  let firstMb ← ueVal
  let h : SliceHeader := ⟨firstMb, st, colourPlane, frameNum, fieldPic, idr, poc, redundant, direct, nra, mods, pwt,
    marking, cabac, qpd, sw, qs, dbIdc⟩
  pure (hdr, h, ⟨qsd, alpha, beta, false⟩)

def bitStr (l : List Bool) : String := String.ofList (l.map fun b => if b then '1' else '0')

def sliceCase (s : Sps.Sps) (p : Pps.Pps) : G (Option (String × String)) := do
  let (hdr, h, x) ← genSlice s p
  let ndata ← nat 24
  let data ← listOf (1 + ndata) flag
  let z ← pick [0, 0, 8]
  let hbits := encSliceHeader s p hdr h x
  let all := padBits (hbits ++ data ++ trailing 0) z
  let ctx : Slice.Ctx := ⟨fun i => if i = s.spsId then some s else none, fun i => if i = p.ppsId then some p else none⟩
  let rest := all.drop hbits.length
  let ok := match parseSliceHeader ctx hdr ⟨all, .eof⟩ with
    | .ok ((h', sid, pid), r) => decide (h' = h) && sid == s.spsId && pid == p.ppsId && r.bits.length == rest.length
    | .error _ => false
  let hb := hdr.nalRefIdc * 32 + hdr.nalUnitType
  if ok then
    pure (some (s!"slice {hexOfNats [hb]} {hexOfNats (bytesOfBits all)}",
      s!"Ok({Render.sliceHeader h}) sps={s.spsId} pps={p.ppsId} ctxrefs=true left={rest.length} next={bitStr (rest.take 16)}"))
  else pure none

/-- a group: `reset`, an SPS, a PPS against it, two slice headers against both; each with its expected observation.
Returns the lines and the number of draws the model filter discarded. -/
def groupCase : G (List String × Nat) := do
  let (sv, ssm) ← genSps
  -- keep picture sizes moderate half of the time so that slice-group bounds are exercised inside the picture
  let sv ← (do let k ← nat 2; if k = 0 then (do pure { sv with picWidthInMbsMinus1 := ← nat 30, picHeightInMapUnitsMinus1 := ← nat 30 }) else pure sv)
  let sbits := padBits (encSps sv ssm ++ trailing 0) 0
  let spsLine := s!"sps {hexOfNats (bytesOfBits sbits)} | Ok({Render.sps sv})"
  match ← ppsCase sv with
  | none => pure (["reset", spsLine], 1)
  | some (pv, pcase, pexp) =>
    let s1 ← sliceCase sv pv
    let s2 ← sliceCase sv pv
    let sl (o : Option (String × String)) := match o with | some (c, e) => [c ++ " | " ++ e] | none => []
    pure (["reset", spsLine, pcase ++ " | " ++ pexp] ++ sl s1 ++ sl s2,
          (if s1.isNone then 1 else 0) + (if s2.isNone then 1 else 0))

end Gen
