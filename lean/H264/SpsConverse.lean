import H264.SpsC04
/-! C04, converse ("exactness"): whatever `parseSps` accepts is the standard's encoding of the value it returns, and
that value is within range (this also yields the C16 range invariants): the left-to-right direction of `parseSps_iff`
where the parser's list of profiles with chroma syntax agrees with the standard's. -/
namespace Sps
open Bits

/-- peel one monadic bind off a successful run -/
macro "bind_step " h:ident " with " a:ident s:ident h1:ident : tactic =>
  `(tactic| (rw [bind_ok_iff] at $h:ident; obtain ⟨$a:ident, $s:ident, $h1:ident, $h:ident⟩ := $h:ident))

theorem optHrd_of (h : Option Hrd) (w : OptHrdWF h) : OptHrdWF h := w

/-- **C04 (converse)** and **C16 (SPS)**: whatever bit string the SPS parser accepts is the standard's encoding of
the returned structure (for some coded scaling-list syntax that derives the returned lists) followed by the
trailing bits and zero bits only — no bit skipped, read twice or interpreted differently — and the returned
structure satisfies every range of `Sps.WF`. It also needed to see the true end of the RBSP. -/
theorem C04_converse (s s' : Src) (v : Sps) (h : parseSps s = .ok (v, s'))
    (hmvc : mvcOnlyProfile v.profileIdc = false) :
    ∃ sm z, v.WF sm ∧ s.bits = encSps v sm ++ trailing z ∧ s.fin = .eof := by
  obtain ⟨⟨sm, z, wf, hb⟩, he, -⟩ := (parseSps_iff s v s').1 h
  rw [hasChromaInfo_std _ hmvc] at wf hb
  exact ⟨sm, z, (Sps.WF_iff v sm).2 wf, by rw [encSps_eq]; exact hb, he⟩

/-- **C17 (SPS)**: the SPS parser never succeeds on a partially buffered NAL -/
theorem parseSps_needs_eof (s : Src) (h : s.fin ≠ .eof) (v : Sps) (s' : Src)
    (hmvc : mvcOnlyProfile v.profileIdc = false) : parseSps s ≠ .ok (v, s') := by
  intro hok
  obtain ⟨_, _, _, _, he⟩ := C04_converse s s' v hok hmvc
  exact h he

#print axioms C04_converse
end Sps
