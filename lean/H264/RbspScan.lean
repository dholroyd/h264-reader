import H264.RbspStep
namespace Rbsp

/-- soundness of one run of the scanning loop over the window `todo` (`after`: what lies beyond it): it has passed on
the first `k` bytes of the window as they are, and un-escaping goes on from its state on the rest. For `consumeInner` the
content is in `unescFrom_skip` -/
def ScanSound (st : PS) (i : Nat) (todo after : List UInt8) : ScanRes → Prop
  | .done st' i' => ∃ k, k ≤ todo.length ∧ i' = i + k ∧
      unescFrom st (todo ++ after) =
        (todo.take k ++ (unescFrom st' (todo.drop k ++ after)).1, (unescFrom st' (todo.drop k ++ after)).2)
  | .invalid st' i' => ∃ k, k ≤ todo.length ∧ i' = i + k ∧
      unescFrom st (todo ++ after) = (todo.take k, false) ∧
      unescFrom st' (todo.drop k ++ after) = ([], false)
  | .consumeInner _ _ => todo ≠ [] ∧ ((∃ n, st = .skip n) ∨ st = .three)

/-- lifting a result for the tail through one emitted byte -/
theorem ScanSound.cons {st st1 : PS} {i : Nat} {b : UInt8} {bs after : List UInt8} {res : ScanRes}
    (hu : ustep st b = some (st1, [b])) (h1 : plainState st1)
    (h : ScanSound st1 (i+1) bs after res) : ScanSound st i (b :: bs) after res := by
  have hu := unescFrom_cons_some hu (bs ++ after)
  cases res with
  | done st' i' =>
    obtain ⟨k, hk, hi, he⟩ := h
    refine ⟨k+1, Nat.succ_le_succ hk, by omega, ?_⟩
    rw [List.cons_append, hu, he]; rfl
  | invalid st' i' =>
    obtain ⟨k, hk, hi, he, he2⟩ := h
    refine ⟨k+1, Nat.succ_le_succ hk, by omega, ?_, he2⟩
    rw [List.cons_append, hu, he]; rfl
  | consumeInner k st' =>
    rcases h.2 with ⟨n, rfl⟩ | rfl <;> simp [plainState] at h1

theorem scan_sound (chunkLen : Nat) (st : PS) (i : Nat) (todo after : List UInt8) :
    ScanSound st i todo after (scan chunkLen st i todo) := by
  induction todo generalizing st i with
  | nil => rw [scan_nil]; exact ⟨0, Nat.le_refl _, rfl, rfl⟩
  | cons b bs ih =>
    rcases ustep_cases st b with ⟨hu, _⟩ | ⟨st1, hu, hp⟩ | ⟨rfl, rfl⟩ | ⟨n, rfl⟩ | rfl
    · rw [scan_none hu]
      exact ⟨0, Nat.zero_le _, rfl, unescFrom_cons_none hu _, unescFrom_cons_none hu _⟩
    · rw [scan_emit hu]; exact ScanSound.cons hu hp (ih _ _)
    · rw [scan_twoZero_three]; exact ⟨0, Nat.zero_le _, rfl, rfl⟩
    · exact ⟨List.cons_ne_nil _ _, .inl ⟨n, rfl⟩⟩
    · exact ⟨List.cons_ne_nil _ _, .inr rfl⟩

def PS.isSkip : PS → Bool | .skip _ => true | _ => false

theorem scan_done_mono (cl : Nat) (st : PS) (i : Nat) (todo : List UInt8) (st' : PS) (i' : Nat)
    (h : scan cl st i todo = .done st' i') : i ≤ i' := by
  have := scan_sound cl st i todo []
  rw [h] at this
  obtain ⟨k, _, hk, _⟩ := this
  omega

theorem scan_done_noskip (cl : Nat) (st : PS) (i : Nat) (todo : List UInt8) (st' : PS) (i' : Nat)
    (hs : st.isSkip = false) (h : scan cl st i todo = .done st' i') : st'.isSkip = false := by
  induction todo generalizing st i with
  | nil => rw [scan_nil] at h; cases h; exact hs
  | cons b bs ih =>
    rcases ustep_cases st b with ⟨hu, _⟩ | ⟨st1, hu, hp⟩ | ⟨rfl, rfl⟩ | ⟨n, rfl⟩ | rfl
    · rw [scan_none hu] at h; cases h
    · rw [scan_emit hu] at h
      exact ih _ _ (by rcases hp with rfl | rfl | rfl | rfl <;> rfl) h
    · rw [scan_twoZero_three] at h; cases h; rfl
    · cases hs
    · cases h

/-- a non-empty window is never left in a skipping state -/
theorem scan_done_cons_noskip {cl : Nat} {st st' : PS} {i i' : Nat} {b : UInt8} {bs : List UInt8}
    (h : scan cl st i (b :: bs) = .done st' i') : st'.isSkip = false := by
  cases st with
  | skip n => cases h
  | _ => exact scan_done_noskip _ _ _ _ _ _ rfl h

/-- one non-empty scan either advances `i` or is the `TwoZero`+`03` → `Three` transition -/
theorem scan_progress (cl : Nat) (st : PS) (i : Nat) (b : UInt8) (bs : List UInt8) (st' : PS) (i' : Nat)
    (h : scan cl st i (b :: bs) = .done st' i') : i < i' ∨ (st = .twoZero ∧ st' = .three ∧ i' = i) := by
  rcases ustep_cases st b with ⟨hu, _⟩ | ⟨st1, hu, _⟩ | ⟨rfl, rfl⟩ | ⟨n, rfl⟩ | rfl
  · rw [scan_none hu] at h; cases h
  · rw [scan_emit hu] at h; exact .inl (scan_done_mono _ _ _ _ _ _ h)
  · rw [scan_twoZero_three] at h; cases h; exact .inr ⟨rfl, rfl, rfl⟩
  · cases h
  · cases h

theorem scan_invalid_state (cl : Nat) (st : PS) (i : Nat) (todo : List UInt8) (st' : PS) (i' : Nat)
    (h : scan cl st i todo = .invalid st' i') : st' = .twoZero ∨ st' = .postThree := by
  induction todo generalizing st i with
  | nil => rw [scan_nil] at h; cases h
  | cons b bs ih =>
    rcases ustep_cases st b with ⟨hu, hst⟩ | ⟨st1, hu, _⟩ | ⟨rfl, rfl⟩ | ⟨n, rfl⟩ | rfl
    · rw [scan_none hu] at h; cases h; exact hst
    · rw [scan_emit hu] at h; exact ih _ _ h
    · rw [scan_twoZero_three] at h; cases h
    · cases h
    · cases h

end Rbsp
