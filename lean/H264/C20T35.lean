import H264.GeneratedTables
import H264.TableEq
/-! theorems over the function graphs extracted from the running code: the T.35 country-code table (one module per property: DESIGN.md 14.7) -/
namespace C20
open Generated

/-- T.35: named countries are exactly the codes 00…C4; FF is the extension escape; remainder offsets -/
theorem t35_table : t35.length = 256 ∧ ∀ b : Fin 256,
    t35.getD b.val (9,9) = (if b.val ≤ 0xC4 then (0, 1) else if b.val = 0xFF then (2, 2) else (1, 1)) :=
  getD_of_eq_ofFn (by decide +kernel) _

end C20
