import H264.TblProof
import H264.TableEq
import H264.SpsOfEnc
/-! theorems of `TblProof` that belong to C04 (one module per property: DESIGN.md 14.7) -/
namespace TblProof
open TblModel Bits Sps

/-- the SPS of `spsWithVui` with a VUI that holds the aspect ratio `a` and nothing else -/
def aspectSps (a : AspectRatioInfo) : Sps.Sps :=
  { profileIdc := 66, constraintFlags := 0, levelIdc := 30, spsId := 0, chromaInfo := {}, log2MaxFrameNumMinus4 := 0,
    picOrderCnt := .typeTwo, maxNumRefFrames := 1, gapsInFrameNumValueAllowedFlag := false, picWidthInMbsMinus1 := 10,
    picHeightInMapUnitsMinus1 := 8, frameMbsFlags := .frames, direct8x8InferenceFlag := false, frameCropping := none,
    vui := some { aspectRatioInfo := some a, overscanAppropriate := .unspecified, videoSignalType := none,
                  chromaLocInfo := none, timingInfo := none, nalHrd := none, vclHrd := none, lowDelayHrdFlag := none,
                  picStructPresentFlag := false, bitstreamRestrictions := none } }

/-- the swept frame is the standard's encoding of `aspectSps a`, well-formed when `a` is, so `C04_forward` gives its parse -/
theorem parse_spsWithVui {a : AspectRatioInfo} (wf : a.WF) {vui : List Bool}
    (h : vui = encAspectRatioInfo (some a) ++ zeros 8) :
    parseSps (src (spsWithVui (some vui))) = .ok (aspectSps a, ⟨[], .eof⟩) := by
  refine parseSps_of_enc (sm := none) (z := 0) ?_ rfl ?_
  · simp [aspectSps, Sps.WF, ChromaInfo.WF, stdHasChromaInfo, PicOrderCntType.WF, Ue, Vui.WF, OptHrdWF, wf]
  · subst h
    simp [spsWithVui, encSps, aspectSps, encChromaInfo, stdHasChromaInfo, encPicOrderCnt, encVui, trailing, u, bT, bF, zeros,
      encFrameMbsFlags, encFrameCropping, encOverscan, encVideoSignalType, encChromaLocInfo, encTimingInfo, encHrd, encOptBool,
      encBitstreamRestrictions, encBool]

/-- so a row needs no parse: it is `b` and the ratio that `aspectGet` gives for it -/
theorem aspectCode_eq {b : Nat} (h : b < 256) :
    aspectCode b = some (b, (aspectGet (if b = 255 then .extended 0x1234 0x0567 else .idc b)).getD (0, 0)) := by
  by_cases hb : b = 255
  · subst hb
    simp only [aspectCode, if_true]
    rw [parse_spsWithVui (a := .extended 0x1234 0x0567) ⟨by decide, by decide⟩]
    · rfl
    · rfl
  · simp only [aspectCode, if_neg hb]
    rw [parse_spsWithVui (a := .idc b) (show b < 255 by omega)]
    · simp only [aspectSps, Option.bind]
      cases aspectGet (.idc b) <;> rfl
    · rfl

/-- **the model parser and the real parser agree on the whole swept domain, by proof**: for every aspect_ratio_idc, running
`Sps.parseSps` (the model) on the frame that the harness fed to `SeqParameterSet::from_bits` gives the row the real parser
produced (`Generated.aspect`, regenerated on every run) -/
theorem aspect_model_eq_code : ∀ b : Fin 256, aspectCode b.val = some (Generated.aspect.getD b.val (999, 0, 0)) := by
  refine getD_some_of_map_range (f := aspectCode) ?_ _
  rw [List.map_congr_left fun b hb => aspectCode_eq (List.mem_range.1 hb)]
  decide +kernel

theorem videoFormat_model_eq_code : ∀ i : Fin 8, videoFormatCode i.val = some (Generated.videoFormat.getD i.val 999) := by
  decide +kernel

theorem chromaFormat_model_eq_code : ∀ i : Fin 16, chromaFormatCode i.val = Generated.chromaFormat.getD i.val (9, 9) := by
  decide +kernel

end TblProof
