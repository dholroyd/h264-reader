import H264.Pps
import H264.SpsStd
import H264.Codes
/-! The standard's PPS syntax (7.3.2.2) as an encoder, and its value ranges (`Pps.WF` heads `PpsC05`) -/
namespace Pps
open Bits Sps

def numGroupsMinus1 : SliceGroup → Nat
  | .interleaved rl => rl.length - 1
  | .dispersed n => n
  | .foregroundAndLeftover rs => rs.length
  | .changing _ n _ _ => n
  | .explicitAssignment n _ => n

def encSliceGroup : SliceGroup → List Bool
  | .interleaved rl => encUe 0 ++ (rl.map encUe).flatten
  | .dispersed _ => encUe 1
  | .foregroundAndLeftover rs => encUe 2 ++ (rs.map fun r => encUe r.1 ++ encUe r.2).flatten
  | .changing t _ d r => encUe t ++ encBool d ++ encUe r
  | .explicitAssignment n ids => encUe 6 ++ encUe (ids.length - 1) ++ (ids.map (encBits (groupIdBits n))).flatten

def encSliceGroups : Option SliceGroup → List Bool
  | none => encUe 0
  | some g => encUe (numGroupsMinus1 g) ++ encSliceGroup g

def encPicScalingMatrix : Option ScalingSyntax → List Bool
  | none => encBool false
  | some lists => encBool true ++ (lists.map encScalingList).flatten

def encPpsExtra : Option PpsExtra → Option ScalingSyntax → List Bool
  | none, _ => []
  | some e, sm => encBool e.transform8x8ModeFlag ++ encPicScalingMatrix sm ++ encSe e.secondChromaQpIndexOffset

def encPps (v : Pps) (sm : Option ScalingSyntax) : List Bool :=
  encUe v.ppsId ++ encUe v.spsId ++ encBool v.entropyCodingModeFlag ++
  encBool v.bottomFieldPicOrderInFramePresentFlag ++ encSliceGroups v.sliceGroups ++
  encUe v.numRefIdxL0DefaultActiveMinus1 ++ encUe v.numRefIdxL1DefaultActiveMinus1 ++
  encBool v.weightedPredFlag ++ encBits 2 v.weightedBipredIdc ++
  encSe v.picInitQpMinus26 ++ encSe v.picInitQsMinus26 ++ encSe v.chromaQpIndexOffset ++
  encBool v.deblockingFilterControlPresentFlag ++ encBool v.constrainedIntraPredFlag ++
  encBool v.redundantPicCntPresentFlag ++ encPpsExtra v.extension sm

def SliceGroup.WF (s : Sps.Sps) : SliceGroup → Prop
  | .interleaved rl => 2 ≤ rl.length ∧ rl.length ≤ 8 ∧ ∀ r ∈ rl, r ≤ picSizeInMapUnits s - 1
  | .dispersed n => 1 ≤ n ∧ n ≤ 7
  | .foregroundAndLeftover rs => 1 ≤ rs.length ∧ rs.length ≤ 7 ∧
      ∀ r ∈ rs, r.1 ≤ r.2 ∧ r.2 ≤ picSizeInMapUnits s ∧ r.2 < 2^32 - 1 ∧
        r.1 % picWidthInMbs s ≤ r.2 % picWidthInMbs s
  | .changing t n _ r => (t = 3 ∨ t = 4 ∨ t = 5) ∧ 1 ≤ n ∧ n ≤ 7 ∧ r ≤ picSizeInMapUnits s - 1
  | .explicitAssignment n ids => 1 ≤ n ∧ n ≤ 7 ∧ 1 ≤ ids.length ∧ ids.length ≤ 2^32 - 1 ∧
      ∀ i ∈ ids, i < 2 ^ groupIdBits n

/-! ### slice groups

`readSliceGroups_enc` is stated here because its `match` is the matcher of `encSliceGroups`, which only this module can
share. The executables import this file, so the proofs name the `After` rules they use instead of the `parse_hyp` set,
whose attribute would pull the `Lean` library into them (`↓`: the guard rule goes before the plain `if` rule). -/

theorem picSize_lt (s : Sps.Sps) : picSizeInMapUnits s < 2^32 := by
  unfold picSizeInMapUnits; omega

theorem readUeList_codes (name tag) (bound n : Nat) (hb : bound < 2^32 - 1) :
    Codes (readUeList name bound tag n) (fun xs => xs.length = n ∧ ∀ x ∈ xs, x ≤ bound)
      fun xs => (xs.map encUe).flatten := by
  refine (readUeMax_codes name bound (.other tag) hb).list rfl (fun n => ?_) n
  -- the loop body has the guard between the read and the recursive call
  simp only [readUeList, bind_bind, ite_bind, fail_bind, pure_bind']

theorem readRect_codes (sp : Sps.Sps) : Codes (readRect sp)
    (fun r => r.1 ≤ r.2 ∧ r.2 ≤ picSizeInMapUnits sp ∧ r.2 < 2^32 - 1 ∧ r.1 % picWidthInMbs sp ≤ r.2 % picWidthInMbs sp)
    fun r => encUe r.1 ++ encUe r.2 := by
  intro s ⟨tl, br⟩ s'
  rw [after_start]
  simp only [readRect, after_readUe_hyp, ↓after_guard_hyp, after_pure]
  -- the range of `top_left` as a `ue(v)` is implied: it is at most `bottom_right`
  constructor
  · rintro ⟨_, -, _, ubr, h1, h2, h3, ⟨⟩, c⟩
    exact ⟨⟨Nat.le_of_not_gt h1, Nat.le_of_not_gt h2, ubr, Nat.le_of_not_gt h3⟩, c⟩
  · rintro ⟨⟨h1, h2, ubr, h3⟩, c⟩
    exact ⟨tl, Nat.lt_of_le_of_lt h1 ubr, br, ubr, Nat.not_lt.2 h1, Nat.not_lt.2 h2, Nat.not_lt.2 h3, rfl, c⟩

theorem readRects_codes (sp : Sps.Sps) (n : Nat) : Codes (readRects sp n)
    (fun rs => rs.length = n ∧ ∀ r ∈ rs, r.1 ≤ r.2 ∧ r.2 ≤ picSizeInMapUnits sp ∧ r.2 < 2^32 - 1 ∧
      r.1 % picWidthInMbs sp ≤ r.2 % picWidthInMbs sp)
    fun rs => (rs.map fun r => encUe r.1 ++ encUe r.2).flatten :=
  (readRect_codes sp).list rfl (fun _ => rfl) n

theorem readBitsList_codes (name) (w n : Nat) : Codes (readBitsList name w n)
    (fun xs => xs.length = n ∧ ∀ x ∈ xs, x < 2^w) fun xs => (xs.map (encBits w)).flatten :=
  (readBits_codes name w).list rfl (fun _ => rfl) n

/-- one map type, the group count `n` already read; where the value keeps a count only as the length of a list, the
encoder recomputes it -/
theorem readSliceGroup_codes (sp : Sps.Sps) (n : Nat) (h1 : 1 ≤ n) (h7 : n ≤ 7) :
    Codes (readSliceGroup n sp) (fun g => g.WF sp ∧ numGroupsMinus1 g = n) encSliceGroup := by
  have hp := picSize_lt sp
  intro s g s'
  rw [after_start]
  simp only [readSliceGroup, after_readUe_hyp, after_readBool, ↓after_guard_hyp, after_ite_cases_hyp, after_pure,
    after_fail,
    (readUeList_codes _ _ _ _ (show picSizeInMapUnits sp - 1 < 2^32 - 1 by omega)).after_bind_hyp,
    (readRects_codes _ _).after_bind_hyp, (readBitsList_codes _ _ _).after_bind_hyp]
  constructor
  · -- the alternatives are the map types 0, 1, 2, 3–5 and 6, each behind the failed tests of those before it
    rintro ⟨t, -, ⟨rfl, rl, ⟨hl, w⟩, rfl, c⟩ | ⟨-, ⟨rfl, rfl, c⟩ | ⟨-, ⟨rfl, rs, ⟨hl, w⟩, rfl, c⟩ |
      ⟨-, ⟨ht, d, r, -, hr, rfl, c⟩ | ⟨-, ⟨rfl, sz, usz, ids, ⟨hl, w⟩, rfl, c⟩ | ⟨-, ⟨⟩⟩⟩⟩⟩⟩⟩
    · exact ⟨⟨⟨by omega, by omega, w⟩, by show rl.length - 1 = n; omega⟩, c⟩
    · exact ⟨⟨⟨h1, h7⟩, rfl⟩, c⟩
    · exact ⟨⟨⟨by omega, by omega, w⟩, hl⟩, c⟩
    · exact ⟨⟨⟨ht, h1, h7, Nat.le_of_not_gt hr⟩, rfl⟩, c⟩
    · obtain rfl : sz = ids.length - 1 := by omega
      exact ⟨⟨⟨h1, h7, by omega, by omega, w⟩, rfl⟩, c⟩
  · rintro ⟨⟨w, hn⟩, c⟩
    rcases g with rl | m | rs | ⟨t, m, d, r⟩ | ⟨m, ids⟩
    · obtain ⟨h2, h8, w⟩ := w
      obtain rfl : rl.length - 1 = n := hn
      exact ⟨0, by omega, .inl ⟨rfl, rl, ⟨by omega, w⟩, rfl, c⟩⟩
    · obtain rfl : m = n := hn
      exact ⟨1, by omega, .inr ⟨by omega, .inl ⟨rfl, rfl, c⟩⟩⟩
    · obtain rfl : rs.length = n := hn
      exact ⟨2, by omega, .inr ⟨by omega, .inr ⟨by omega, .inl ⟨rfl, rs, ⟨rfl, w.2.2⟩, rfl, c⟩⟩⟩⟩
    · obtain ⟨ht, -, -, hr⟩ := w
      obtain rfl : m = n := hn
      exact ⟨t, by omega, .inr ⟨by omega, .inr ⟨by omega, .inr ⟨by omega,
        .inl ⟨ht, d, r, by omega, by omega, rfl, c⟩⟩⟩⟩⟩
    · obtain ⟨-, -, hl, hu, w⟩ := w
      obtain rfl : m = n := hn
      exact ⟨6, by omega, .inr ⟨by omega, .inr ⟨by omega, .inr ⟨by omega, .inr ⟨by omega,
        .inl ⟨rfl, ids.length - 1, by omega, ids, ⟨by omega, w⟩, rfl, c⟩⟩⟩⟩⟩⟩

theorem SliceGroup.WF.numGroups {sp : Sps.Sps} {g : SliceGroup} (w : g.WF sp) :
    1 ≤ numGroupsMinus1 g ∧ numGroupsMinus1 g ≤ 7 := by
  cases g <;> simp only [SliceGroup.WF, numGroupsMinus1] at w ⊢ <;> omega

theorem readSliceGroups_codes (sp : Sps.Sps) :
    Codes (readSliceGroups sp) (OptWF (SliceGroup.WF sp)) encSliceGroups := by
  intro s g s'
  rw [after_start]
  simp only [readSliceGroups, after_readUe_hyp, ↓after_guard_hyp, after_ite_cases_hyp, after_map, after_pure]
  constructor
  · rintro ⟨n, -, h7, ⟨h0, g, rfl, h⟩ | ⟨h0, rfl, c⟩⟩
    · obtain ⟨⟨w, rfl⟩, c⟩ := ((readSliceGroup_codes sp n h0 (by omega)).after ..).1 h
      exact ⟨w, c⟩
    · obtain rfl : n = 0 := by omega
      exact ⟨trivial, c⟩
  · rintro ⟨w, c⟩
    rcases g with _ | g
    · exact ⟨0, by omega, by omega, .inr ⟨by omega, rfl, c⟩⟩
    · have ⟨h1, h7⟩ := SliceGroup.WF.numGroups w
      exact ⟨_, by omega, by omega, .inl ⟨h1, g, rfl, ((readSliceGroup_codes sp _ h1 h7).after ..).2 ⟨⟨w, rfl⟩, c⟩⟩⟩

theorem readSliceGroups_enc (s : Sps.Sps) (g : Option SliceGroup)
    (wf : match g with | none => True | some g => g.WF s) (rest fin) :
    readSliceGroups s ⟨encSliceGroups g ++ rest, fin⟩ = .ok (g, ⟨rest, fin⟩) :=
  (readSliceGroups_codes s).enc (by cases g <;> exact wf) rest fin

/-- coded pic scaling syntax ↦ the matrix stored in the parsed PPS -/
def PicMatrixDerives (s : Sps.Sps) (t : Bool) : Option ScalingSyntax → Option PicScalingMatrix → Prop
  | none, m => m = none
  | some ls, m => ls.length = 6 + count8 s t ∧ (∀ sl ∈ ls, deltasOk sl) ∧
      ∃ x y, specLists 6 0 ls = some (x, y) ∧ m = some ⟨x, if y.isEmpty then none else some y⟩

def PpsExtra.WF (s : Sps.Sps) (e : PpsExtra) (sm : Option ScalingSyntax) : Prop :=
  PicMatrixDerives s e.transform8x8ModeFlag sm e.picScalingMatrix ∧
  -12 ≤ e.secondChromaQpIndexOffset ∧ e.secondChromaQpIndexOffset ≤ 12

end Pps
