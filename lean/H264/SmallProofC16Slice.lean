import H264.Slice
import H264.Context
import H264.GeneratedSmall
/-! one coded field of an SP slice header at a time (C16 / C06) -/
namespace SmallProof
open Bits

def encS' (v : Int) : Nat := if v < 0 then 2 * v.natAbs + 1 else 2 * v.natAbs

def sliceFieldRow (i : Nat) : Nat × Nat :=
  let field := i / 82; let k := i % 82
  let uv : Nat := if field = 2 ∧ k ≥ 41 then 86 + k else k % 41
  let sv : Int := (k : Int) - 29
  let fu (j dflt : Nat) : Nat := if j = field then uv else dflt
  let fs (j : Nat) : Int := if j = field then sv else 0
  let spsBits := encBits 8 66 ++ encBits 8 0 ++ encBits 8 30 ++ encUe 0 ++ encUe 0 ++ encUe 2 ++ encUe 1 ++ [false] ++ encUe 1 ++ encUe 1 ++ [true, false, false, false] ++ [true]
  match Sps.parseSps ⟨spsBits, .eof⟩ with
  | .error _ => (7, 7)
  | .ok (s, _) =>
    let sm := Ctx.put [] s.spsId s
    let ppsBits := encUe 0 ++ encUe 0 ++ [true, false] ++ encUe 0 ++ encUe 0 ++ encUe 0 ++ [false] ++ encBits 2 0 ++ encSe 0 ++ encSe 0 ++ encSe 0 ++ [true, false, true] ++ [true]
    match Pps.parsePps (Ctx.get sm) ⟨ppsBits, .eof⟩ with
    | .error _ => (7, 7)
    | .ok (p, _) =>
      let pm := Ctx.put [] p.ppsId p
      let idc := fu 7 0
      let bits := encUe (fu 0 0) ++ encUe 3 ++ encUe (fu 1 0) ++ encBits 4 5 ++ encUe (fu 2 0) ++ [true] ++ encUe (fu 3 0) ++ [false, false] ++
        encUe (fu 4 0) ++ encSe (fs 5) ++ [false] ++ encSe (fs 6) ++ encUe idc ++ (if idc ≠ 1 then encSe (fs 8) ++ encSe (fs 9) else []) ++
        encBits 8 0xA5 ++ [true]
      match Slice.parseSliceHeader ⟨Ctx.get sm, Ctx.get pm⟩ ⟨1, 1⟩ ⟨bits, .eof⟩ with
      | .error _ => (0, 0)
      | .ok ((h, _, pid), _) =>
        (1, match field with
          | 0 => h.firstMbInSlice | 1 => pid | 2 => h.redundantPicCnt.getD 999
          | 3 => (match h.numRefIdxActive with | some (.P l0) => l0 | _ => 999)
          | 4 => h.cabacInitIdc.getD 999 | 5 => encS' h.sliceQpDelta | 6 => h.sliceQs.getD 999
          | 7 => h.disableDeblockingFilterIdc | _ => 0)

/-- model `parseSliceHeader` = real `SliceHeader::from_bits` on ten fields of an SP slice header swept across their range checks
(pic_parameter_set_id defined or not, redundant_pic_cnt 127 / 128, num_ref_idx_l0_active_minus1 31 / 32, cabac_init_idc 2 / 3,
slice_qp_delta 51 / 52, SliceQS 0…51 through slice_qs_delta, disable_deblocking_filter_idc 6 / 7, alpha offset ±6 / ±7, …): accepted or
not, and the field as returned -/
theorem sliceFields_model_eq_code : (List.range 820).map sliceFieldRow = Generated.sliceFieldRows := by
  -- the row's bit string is a left-nested `++` of ~25 pieces; re-associated once here, the kernel does not walk
  -- 25 `List.append` frames for every bit read
  unfold sliceFieldRow
  simp only [List.append_assoc, List.cons_append, List.nil_append]
  decide +kernel

end SmallProof
