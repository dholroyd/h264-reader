import H264.SmallNalDefs
import H264.EndToEnd
/-! a four-NAL Annex B stream pushed in two pieces, every cut (C12) -/
namespace SmallProof


def streamBytes : List UInt8 := (List.range 4).flatMap fun k => [0, 0, 1] ++ nalBytes k

structure PState where
  sps : Ctx.PMap Sps.Sps := []
  pps : Ctx.PMap Pps.Pps := []
  out : List Nat := []

/-- what the handler of `tables.rs` does with one complete NAL (given as the chunks it is shown) -/
def handle (st : PState) (chunks : List (List UInt8)) : PState :=
  let hdr : Nat := match chunks with | (b :: _) :: _ => b.toNat | _ => 255
  let ty := hdr % 32
  let src := NalSrc.srcOfNal chunks true
  if ty = 7 then
    match Sps.parseSps src with
    | .ok (s, _) => { st with sps := Ctx.put st.sps s.spsId s, out := st.out ++ [0, 1, s.spsId] }
    | .error _ => { st with out := st.out ++ [0, 0, 0] }
  else if ty = 8 then
    match Pps.parsePps (Ctx.get st.sps) src with
    | .ok (p, _) => { st with pps := Ctx.put st.pps p.ppsId p, out := st.out ++ [1, 1, p.ppsId] }
    | .error _ => { st with out := st.out ++ [1, 0, 0] }
  else if ty = 1 ∨ ty = 5 then
    match Slice.parseSliceHeader ⟨Ctx.get st.sps, Ctx.get st.pps⟩ ⟨hdr / 32 % 4, ty⟩ src with
    | .ok ((h, _, _), _) => { st with out := st.out ++ [2, 1, h.frameNum] }
    | .error _ => { st with out := st.out ++ [2, 0, 0] }
  else if ty = 6 then
    let d := NalSrc.drain (NalSrc.rbspBytes chunks true)
    let r := seiCount (d.1.length + 4) ⟨⟨d.1, NalSrc.kindOf d.2⟩, 0, false⟩ 0
    { st with out := st.out ++ [3, (if r.1 = 1 then 1 else 0), r.2] }
  else { st with out := st.out ++ [9, 9, 9] }

/-- the whole model pipeline: Annex B reader (two pushes + reset) → accumulator (always Buffer) → parsers inside the handler -/
def streamRow (cut : Nat) : List Nat :=
  let r1 := AnnexB.push .start (streamBytes.take cut)
  let r2 := AnnexB.push r1.1 (streamBytes.drop cut)
  let r3 := AnnexB.reset r2.1
  let tr := (Accum.run Accum.init (C12.stepsOf (r1.2 ++ r2.2 ++ r3.2)) []).2
  ((tr.filter (·.complete)).foldl (fun st i => handle st (i.head :: i.tail)) {}).out

/-- what the handler does with a valid NAL depends on its chunks only through their concatenation -/
theorem handle_flatten (cs : List (List UInt8)) (hne : ∀ c ∈ cs, c ≠ [])
    (hv : (Rbsp.unesc (cs.flatten.drop 1)).2 = true) (hnn : cs.flatten ≠ []) :
    (fun st => handle st cs) = fun st => handle st [cs.flatten] := by
  have h2 := NalSrc.srcOfNal_flatten cs hne hv hnn
  have h3 : NalSrc.drain (NalSrc.rbspBytes cs true) = NalSrc.drain (NalSrc.rbspBytes [cs.flatten] true) := by
    rw [NalSrc.drain_rbspBytes cs true hne hv,
      NalSrc.drain_rbspBytes [cs.flatten] true (by simpa using hnn) (by simpa using hv)]
    simp
  cases cs with
  | nil => exact absurd rfl hnn
  | cons c cs' =>
    cases c with
    | nil => exact absurd rfl (hne [] (by simp))
    | cons b c' => funext st; simp only [handle, h2, h3, List.flatten_cons, List.cons_append]

/-- the units of the stream, as the byte machine segments it -/
def streamUnits : List (List UInt8) :=
  C12.splitUnits [] ((AnnexB.run .start streamBytes).2 ++ AnnexB.resetEv (AnnexB.run .start streamBytes).1)

/-- every cut gives what the handler does with the units one after the other (`C12.end_to_end_of`) -/
theorem streamRow_eq (cut : Nat) : streamRow cut = (streamUnits.foldl (fun st u => handle st [u]) {}).out := by
  have hunits : C12.splitUnits [] (AnnexB.outside [streamBytes.take cut, streamBytes.drop cut].flatten) = streamUnits := by
    simp only [List.flatten_cons, List.flatten_nil, List.append_nil, List.take_append_drop, streamUnits, AnnexB.run_spec]
    rfl
  have h := C12.end_to_end_of (fun cs st => handle st cs) handle_flatten [streamBytes.take cut, streamBytes.drop cut] (by
    rw [hunits]; simp only [← Rbsp.unescFrom_start_eq]; decide +kernel)
  simp only [hunits, AnnexB.pushAll, List.append_nil] at h
  have hfold := congrArg (fun l => (l.foldl (fun st (g : PState → PState) => g st) {}).out) h
  simp only [List.foldl_map] at hfold
  exact hfold

/-- **the whole pipeline, model = real code, by proof**: the four NAL units as one Annex B stream pushed through
`AnnexBReader::accumulate` in two pieces cut at every position, then reset: the model pipeline (Annex B model → accumulator model →
byte reader model → parsers, with the context it builds) parses inside its handler exactly what the real pipeline parsed inside
the real handler in this run's graph -/
theorem stream_model_eq_code : (List.range (streamBytes.length + 1)).map streamRow = Generated.streamRows := by
  rw [funext streamRow_eq]
  exact eq_of_beq (by decide +kernel)

end SmallProof
