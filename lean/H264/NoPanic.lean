import H264.Closed
import H264.Codes
/-! C03 (parsers): `NoPanic p` — no source makes `p` end in a `panic` outcome — holds of the primitives, so it is a
`ClosedProp` and every model parser has it. The only `panic` in the parser models is the exhausted fuel of the two
slice-header loops (`SliceLoops`). -/
namespace Bits

def NoPanic {α} (p : P α) : Prop := ∀ s e, p s = .error e → e.isPanic = false

theorem NoPanic.bind {α β} {p : P α} {f : α → P β} (hp : NoPanic p) (hf : ∀ a, NoPanic (f a)) :
    NoPanic (p >>= f) := by
  intro s e h
  simp only [bind_run] at h
  cases hps : p s with
  | error e' => rw [hps] at h; cases h; exact hp s _ hps
  | ok v => rw [hps] at h; exact hf v.1 v.2 e h

theorem np_unaryGo (name fin bits acc e) (h : unaryGo name fin bits acc = .error e) : e.isPanic = false := by
  induction bits generalizing acc with
  | nil => cases h; rfl
  | cons b bs ih =>
    cases b with
    | false => exact ih _ h
    | true => cases h

/-- the errors of `readBit`, `hasMore`, `finishRbsp` and `finishSei` are written out in their definitions: none is a
panic -/
macro "np_cases " f:ident : tactic =>
  `(tactic| (intro s e h; unfold $f at h; (repeat' split at h) <;> cases h <;> rfl))

theorem np_finishSei : NoPanic finishSei := by np_cases finishSei

def npProp : ClosedProp where
  holds := NoPanic
  pure a := fun s e h => nomatch h
  bind := NoPanic.bind
  fail e he := fun s e' h => by cases h; exact he
  readBit name := by np_cases readBit
  readUnary1 name := fun s e h => np_unaryGo name _ _ _ e h
  hasMore name := by np_cases hasMore
  finishRbsp := by np_cases finishRbsp

end Bits
