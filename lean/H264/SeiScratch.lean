import H264.Sei
/-! `SeiReader::next` with the caller-supplied scratch vector made explicit (`scratch.resize(len, 0)`, then
`read_exact(&mut scratch)`, the message borrows `&scratch[..]`): whatever the vector held before — empty, dirty,
longer or shorter than the payload — the reader's result and next state are those of the scratch-free model `Sei.next`.
This is the clause "reusing scratch buffers does not change the outcome" of C17 for the one parser that has scratch
storage. -/
namespace Sei
open Bits

/-- `Vec::resize(n, 0)`: truncate, or pad with zeros -/
def resize (s : List UInt8) (n : Nat) : List UInt8 := s.take n ++ List.replicate (n - s.length) 0

theorem resize_length (s : List UInt8) (n : Nat) : (resize s n).length = n := by
  unfold resize
  simp only [List.length_append, List.length_take, List.length_replicate]
  omega

/-- `Read::read_exact(&mut buf)` over the remaining bytes: the whole buffer is overwritten, or the read fails -/
def readExact (buf src : List UInt8) : Option (List UInt8 × List UInt8) :=
  if src.length < buf.length then none else some (src.take buf.length, src.drop buf.length)

/-- the reader with its scratch vector: returns the new reader state, the result, and the scratch vector afterwards -/
def nextS (r : Reader) (scratch : List UInt8) : Reader × Except Err (Option Msg) × List UInt8 :=
  if r.done then (r, .ok none, scratch) else
  let rd := { r with done := true }
  match readU32 "payload_type" r.src.fin r.src.bytes 0 with
  | .error e => (rd, .error e, scratch)
  | .ok (ty, rest) =>
    if ty = 0x80 ∧ r.payloadsSeen > 0 ∧ rest = [] then
      (if r.src.fin = .eof then (rd, .ok none, scratch) else (rd, .error (.io "payload_type" r.src.fin), scratch))
    else
    match readU32 "payload_len" r.src.fin rest 0 with
    | .error e => (rd, .error e, scratch)
    | .ok (len, rest2) =>
      let sc := resize scratch len
      match readExact sc rest2 with
      | none => (rd, .error (.io "payload" r.src.fin), sc)
      | some (sc', rest3) =>
        ({ src := ⟨rest3, r.src.fin⟩, payloadsSeen := r.payloadsSeen + 1, done := false }, .ok (some (ty, sc')), sc')

/-- **scratch independence**: for every reader state and every previous content of the scratch vector, the reader that
reuses the vector returns what the model without it returns -/
theorem nextS_eq_next (r : Reader) (scratch : List UInt8) :
    ((nextS r scratch).1, (nextS r scratch).2.1) = next r := by
  by_cases hd : r.done = true
  · simp [nextS, next, hd]
  rw [Bool.not_eq_true] at hd
  have h := next_spec r hd
  generalize next r = x at h ⊢
  cases h with
  | ended h1 hs hf => simp only [nextS, hd, h1]; simp [hs, hf]
  | msg h1 hne h2 hl => simp [nextS, readExact, resize_length, hd, h1, hne, h2, Nat.not_lt.mpr hl]
  | _ => simp [nextS, readExact, resize_length, *]

/-- in particular two different scratch histories give the same messages -/
theorem scratch_irrelevant (r : Reader) (s₁ s₂ : List UInt8) :
    (nextS r s₁).1 = (nextS r s₂).1 ∧ (nextS r s₁).2.1 = (nextS r s₂).2.1 :=
  Prod.mk.inj ((nextS_eq_next r s₁).trans (nextS_eq_next r s₂).symm)

end Sei
