import H264.TblProof
import H264.Tables2C10
/-! theorems of `TblProof` that belong to C10 (one module per property: DESIGN.md 14.7) -/
namespace TblProof


theorem seiType_model_eq_code : ∀ i : Fin 512, seiTypeCode i.val = some (Generated.seiType.getD i.val 999) := by
  have h : ∀ i : Fin 512, seiTypeCode i.val = some i.val := by decide +kernel
  intro i; rw [Tables2.seiType_rows.2 i, h i]

end TblProof
