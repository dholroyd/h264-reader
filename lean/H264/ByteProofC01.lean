import H264.ByteProof
import H264.AnnexBSpec
/-! theorems of `ByteProof` that belong to C01 (one module per property: DESIGN.md 14.7) -/
namespace ByteProof

open AnnexB in
/-- every cut gives the byte machine's events on the whole word (`C01_reset`) -/
theorem annexbRow_eq (s : List Nat) : annexbRow s = List.replicate (s.length + 1)
      (((run .start (bytes s)).2 ++ resetEv (run .start (bytes s)).1).map evCode) := by
  unfold annexbRow
  rw [List.eq_replicate_iff]
  refine ⟨by simp, fun r hr => ?_⟩
  obtain ⟨cut, -, rfl⟩ := List.mem_map.1 hr
  have h := C01_reset [bytes (s.take cut), bytes (s.drop cut)]
  simp only [pushAll, List.append_nil, List.flatten_cons, List.flatten_nil, bytes, ← List.map_append,
    List.take_append_drop] at h
  simp only [bytes, run_spec, spec, ← h, List.append_assoc]

theorem annexb_model_eq_code : (words [0x00, 0x01, 0x03, 0xa5]).map annexbRow = Generated.annexbRows := by
  rw [funext annexbRow_eq]
  exact eq_of_beq (by decide +kernel)

end ByteProof
