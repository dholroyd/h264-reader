import H264.C07
import H264.BitsProofC07
/-! # C07 — Bit reader decodes every u(n)/ue(v)/se(v) codeword to the standard's value

Model: `Bits.Src = (remaining bits MSB first, what the byte source reports when they run out)`; `readBits`, `readUe`,
`readSe` mirror `BitRead::read / read_ue / read_se` over the documented bit-list meaning of `bitstream-io`
(`read`, `read_unary1`). Bit alignment is invisible at this level: a position is a suffix of the bit list, and the
residual source returned by each read is the "advances by exactly the codeword length" claim. That `bitstream-io`
realises this at byte offsets 0…7 is validated by the correspondence run. Encoders `encBits`, `encUe`, `encSe` are
clause 9.1 / 7.2 of the standard. -/
namespace C07
open Bits

/-- u(n): the big-endian value of exactly n bits, for every n and every value below 2ⁿ; the rest is untouched -/
theorem fixed_width (name) (n v : Nat) (h : v < 2^n) (rest : List Bool) (fin) :
    readBits name n ⟨encBits n v ++ rest, fin⟩ = .ok (v, ⟨rest, fin⟩) := readBits_enc name n v h rest fin

/-- ue(v): every codeNum 0 … 2³²−2 is returned exactly, consuming exactly its codeword -/
theorem ue_all_codewords (name) (k : Nat) (h : k < 2^32 - 1) (rest : List Bool) (fin) :
    readUe name ⟨encUe k ++ rest, fin⟩ = .ok (k, ⟨rest, fin⟩) := readUe_enc name k h rest fin

/-- converse: whatever `read_ue` accepts is the canonical codeword of the value it returns (no other bit pattern
decodes to a value, nothing is skipped) -/
theorem ue_exact (name) (s s' : Src) (k : Nat) (h : readUe name s = .ok (k, s')) :
    k < 2^32 - 1 ∧ s.bits = encUe k ++ s'.bits ∧ s'.fin = s.fin := readUe_exact name s s' k h

/-- se(v): the signed mapping (−1)^(k+1)·⌈k/2⌉, for every value whose codeNum is ≤ 2³²−2 -/
theorem se_all_codewords (name) (v : Int) (h : SeRange v) (rest fin) :
    readSe name ⟨encSe v ++ rest, fin⟩ = .ok (v, ⟨rest, fin⟩) := readSe_enc name v h rest fin

theorem se_exact (name) (s s' : Src) (v : Int) (h : readSe name s = .ok (v, s')) :
    SeRange v ∧ s.bits = encSe v ++ s'.bits ∧ s'.fin = s.fin := (readSe_codes name s v s').1 h

/-- the mapping itself: codeNum k ↦ (−1)^(k+1)·⌈k/2⌉ and back -/
theorem se_mapping (k : Nat) : seOfUe k = if k % 2 = 1 then (((k + 1) / 2 : Nat) : Int) else -((k / 2 : Nat) : Int) := rfl
theorem se_mapping_inverse (v : Int) : seOfUe (ueOfSe v) = v := seOfUe_ueOfSe v

/-- the Rust `u32`/`i32` expression `golomb_to_signed`, with wrap-around made explicit, never wraps for any value
`read_ue` can return and equals that mapping -/
theorem se_rust_expression_exact (k : Nat) (h : k < 2^32 - 1) : golombToSignedRust k = seOfUe k :=
  golombToSignedRust_eq k h

/-- 32 or more leading zero bits: rejected as too large, whatever follows -/
theorem ue_too_large (name) (n : Nat) (h : 32 ≤ n) (rest fin) :
    readUe name ⟨List.replicate n false ++ true :: rest, fin⟩ = .error (.tooLarge name) :=
  readUe_tooLarge name n h rest fin

/-- a codeword cut short by the end of the data, at any of its truncation points, is a read error naming the field
— never a wrong value -/
theorem ue_truncated (name) (k : Nat) (hk : k < 2^32 - 1) (m : Nat) (hm : m < (encUe k).length) (fin) :
    readUe name ⟨(encUe k).take m, fin⟩ = .error (.io name fin) := readUe_truncated name k hk m hm fin

theorem fixed_width_truncated (name) (n : Nat) (bits : List Bool) (h : bits.length < n) (fin) :
    readBits name n ⟨bits, fin⟩ = .error (.io name fin) := readBits_short name n bits h fin

/-- sequences of mixed reads compose: each read starts where the previous one stopped -/
theorem sequence_example (a : Nat) (ha : a < 2^32 - 1) (v : Int) (hv : SeRange v) (n w : Nat) (hw : w < 2^n) (rest fin) :
    (do let x ← readUe "a"; let y ← readSe "b"; let z ← readBits "c" n; pure (x, y, z) : P _)
      ⟨encUe a ++ (encSe v ++ (encBits n w ++ rest)), fin⟩ = .ok ((a, v, w), ⟨rest, fin⟩) := by
  simp [readUe_enc _ _ ha, readSe_enc _ _ hv, readBits_enc _ _ _ hw]

/-- non-vacuity: the extreme codeNum and the extreme signed values are inside the hypotheses -/
example : (2^32 - 2 : Nat) < 2^32 - 1 ∧ SeRange (2^31 - 1) ∧ SeRange (-(2^31 - 1)) := by
  unfold SeRange; omega

/-- **the assumed bit-list semantics, checked by proof on a complete small domain**: for every first byte, second byte in
{00, ff, 5a} and bit offset 0…7 (6 144 positions), the model's `readUe` / `readSe` return exactly what the real
`rbsp::BitReader` (over bitstream-io) returned when the harness ran it for this run's graph: the value, the number of bits
left (so the codeword length), or the same error class -/
theorem model_ue_reproduces_code : ∀ b0 : Fin 256, ∀ j : Fin 24,
    BitsProof.ueRow b0.val j.val = (Generated.bitsUe.getD b0.val []).getD j.val (9, 9, 9) := BitsProof.bits_ue_model_eq_code
theorem model_se_reproduces_code : ∀ b0 : Fin 256, ∀ j : Fin 24,
    BitsProof.seRow b0.val j.val = (Generated.bitsSe.getD b0.val []).getD j.val (9, 9, 9) := BitsProof.bits_se_model_eq_code

end C07
