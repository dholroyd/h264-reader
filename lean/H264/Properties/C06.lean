import H264.SliceC06
import H264.SliceRanges
import H264.SliceConverse
import H264.History
import H264.Tables2C06
import H264.TblProofC06
import H264.SmallProofC16Slice
/-! # C06 — Slice header parsing follows H.264 7.3.3 and stops exactly at slice data

Model: `Slice.parseSliceHeader ctx hdr` mirrors `SliceHeader::from_bits(ctx, reader, nal_header)`.
Spec: `Slice.encSliceHeader sps pps hdr h x` transcribed from 7.3.3, 7.3.3.1, 7.3.3.2, 7.3.3.3 over a syntax-level
record: the header fields `h` plus `x : Extra` — the coded `slice_qs_delta`, `slice_alpha_c0_offset_div2` and
`slice_beta_offset_div2`, which the result type does not keep (it keeps the derived SliceQS). `SliceWF` spells out
the standard's presence conditions on slice_type % 5, nal_unit_type = 5, nal_ref_idc ≠ 0 and the SPS/PPS flags.
Excluded, as in the property: B slices with explicit weighted prediction (`PwtWF`), and PPS with slice-group map
types 3–5, whose slice_group_change_cycle the library does not read (so the residual position is the first bit of
slice data exactly for the other PPS). -/
namespace C06
open Slice Bits Sps

/-- **forward**: every conforming header of NAL types 1/5, any nal_ref_idc, any slice type, with its PPS and SPS in the
context: every field equals the encoded value, the activated parameter-set ids are returned, and the reader is left
on the first bit after the header (`d :: data`), not one bit early or late -/
theorem forward (ctx : Ctx) (sps : Sps.Sps) (pps : Pps.Pps) (hdr : NalHdr) (h : SliceHeader) (x : Extra)
    (hpps : ctx.pps pps.ppsId = some pps) (hsps : ctx.sps pps.spsId = some sps)
    (wf : SliceWF sps pps hdr h x) (d : Bool) (data : List Bool) (z : Nat) :
    parseSliceHeader ctx hdr ⟨encSliceHeader sps pps hdr h x ++ d :: (data ++ trailing z), .eof⟩
      = .ok ((h, pps.spsId, pps.ppsId), ⟨d :: (data ++ trailing z), .eof⟩) :=
  C06_forward ctx sps pps hdr h x hpps hsps wf d data z

/-- the one non-canonical coding the parser accepts in a header: a list-modification flag 1 followed at once by
the terminator parses like flag 0 (exactness of the loop) -/
theorem mod_list_exact (s s' : Src) (ops : List ModOp) (h : readModList s = .ok (ops, s')) :
    (∀ o ∈ ops, o.WF) ∧ (∃ lf, s.bits = encModListAlt ops lf ++ s'.bits) ∧ s'.fin = s.fin :=
  readModList_exact s s' ops h

/-- **converse** ("each conditional element is read exactly when the standard's condition holds"): whatever the parser
accepts, in any context, is the standard-order encoding of exactly what it returned followed by the untouched rest —
no bit skipped, read twice or read under another condition. The two places where different bit strings give the same
value are explicit: `alt` (an empty modification list coded as flag 1 + terminator) and `x` (the discarded
slice_qs_delta / alpha / beta offsets). The returned ids name the context entries used, slice data follows, and the
result satisfies the presence conditions `SliceWF` of the forward theorem -/
theorem converse (ctx : Ctx) (hdr : NalHdr) (s s' : Src) (h : SliceHeader) (sid pid : Nat)
    (hok : parseSliceHeader ctx hdr s = .ok ((h, sid, pid), s')) :
    ∃ pps sps x alt, ctx.pps pid = some pps ∧ pps.spsId = sid ∧ ctx.sps sid = some sps ∧ pid ≤ 255 ∧
      s.bits = encSliceHeaderAlt sps pps hdr h x pid alt ++ s'.bits ∧ s'.fin = s.fin ∧
      (s'.bits.drop 1).any id = true ∧
      (pps.ppsId = pid → SliceWF sps pps hdr h x) :=
  C06_converse ctx hdr s s' h sid pid hok

/-- the encoder of the converse is the encoder of the forward theorem (canonical choices) -/
theorem converse_encoder_is_standard (sps : Sps.Sps) (pps : Pps.Pps) (hdr : NalHdr) (h : SliceHeader) (x : Extra) :
    encSliceHeaderAlt sps pps hdr h x pps.ppsId ⟨false, false⟩ = encSliceHeader sps pps hdr h x :=
  encSliceHeaderAlt_std sps pps hdr h x

/-- both directions joined, **for every context reachable by feeding parameter-set NALs to the parsers**: a header
accepted there is conforming (`SliceWF`) and its standard encoding parses back to the same result in front of any
slice data. (The hypothesis of `C06_reencode` — PPS stored under their own ids — is the context invariant of
`History.reachable_inv`.) -/
theorem accepted_reencodes_in_reachable_context (ops : List History.Op) (hdr : NalHdr) (s s' : Src) (h : SliceHeader)
    (sid pid : Nat)
    (hok : parseSliceHeader (History.sctx (History.run ops)) hdr s = .ok ((h, sid, pid), s')) :
    ∃ pps sps x, (History.sctx (History.run ops)).pps pid = some pps ∧ (History.sctx (History.run ops)).sps sid = some sps ∧
      SliceWF sps pps hdr h x ∧
      ∀ (d : Bool) (data : List Bool) (z : Nat),
        parseSliceHeader (History.sctx (History.run ops)) hdr ⟨encSliceHeader sps pps hdr h x ++ d :: (data ++ trailing z), .eof⟩
          = .ok ((h, sid, pid), ⟨d :: (data ++ trailing z), .eof⟩) :=
  C06_reencode _ hdr s s' h sid pid hok (fun p hp => ((History.reachable_inv ops).2 pid p hp).1)

/-- Table 7-6 in the running code (graph extracted through `SliceHeader::from_bits` on every run): slice_type 0…9 are
accepted and 10…63 refused; the family is the model's `familyOf` and 5…9 are the exclusive variants -/
theorem code_slice_type_table : Generated.sliceType.length = 64 ∧
    ∀ t : Fin 64, Generated.sliceType.getD t.val (9,9,9) =
      (if t.val ≤ 9 then (1, Tables2.famIdx (Slice.familyOf t.val), if t.val ≥ 5 then 1 else 0) else (0, 0, 0)) :=
  Tables2.sliceType_table

/-- model `parseSliceHeader` (in the model context built by the model SPS / PPS parsers) = real `SliceHeader::from_bits`
on the 64 swept slice headers, by proof on every run -/
theorem model_parser_reproduces_code_on_slice_type_sweep :
    ∀ t : Fin 64, TblProof.sliceTypeCode t.val = Generated.sliceType.getD t.val (9, 9, 9) := TblProof.sliceType_model_eq_code

/-- **model = real code across every range check of a slice header, by proof**: ten coded fields of an SP slice header (against a
PPS with CABAC, redundant_pic_cnt and deblocking control switched on), one at a time swept across its bounds, everything else
valid (820 inputs): the model parser accepts exactly what the real parser accepted in this run's graph and returns the same field -/
theorem model_slice_bounds_reproduce_code : (List.range 820).map SmallProof.sliceFieldRow = Generated.sliceFieldRows :=
  SmallProof.sliceFields_model_eq_code

end C06
