import H264.AccumCor
import H264.SmallProofC08
/-! # C08 — NAL accumulator shows each NAL from byte 0, completes it once, honours Ignore

Model: `Accum.frag` mirrors `NalAccumulator::nal_fragment`; a history is a list of `Step`s (slices, end flag, and the
answer the handler gives *if* it is invoked on that delivery), so quantifying over step lists quantifies over all
delivery sequences and all handler policies. `specRun` is the specification: from the ghost state
(bytes of the current NAL so far, ignored?) alone it lists what each invocation must carry.
Caller contract (proved for the Annex B reader as C18): slices are non-empty. -/
namespace C08
open Accum

/-- for every delivery sequence with non-empty slices and every policy: the invocations (bytes shown, complete flag)
are exactly those of the specification — each shows all bytes of the current NAL so far starting at its first byte,
complete iff that delivery ended the NAL, none after Ignore -/
theorem invocations_match_spec (steps : List Step) (hne : ∀ s ∈ steps, ∀ b ∈ s.bufs, b ≠ []) :
    obs (run init steps []).2 = specRun ⟨[], false⟩ steps := by
  obtain ⟨h, _⟩ := run_spec init ⟨[], false⟩ inv_init steps hne []
  simpa [obs] using h

/-- one delivery, from any reachable state: the handler is invoked iff the NAL is not ignored and has a byte so far; it
sees exactly the bytes so far, a non-empty head chunk, complete iff end; the invariant is re-established -/
theorem one_delivery (a : Acc) (g : Ghost) (s : Step) (h : Accum.Inv a g) (hne : ∀ b ∈ s.bufs, b ≠ []) :
    (match (frag a s.bufs s.fin (fun _ => s.answer)).2 with
     | some inv => g.ignored = false ∧ inv.bytes = g.soFar ++ s.bufs.flatten ∧ inv.head ≠ [] ∧ inv.complete = s.fin
     | none => g.ignored = true ∨ (g.soFar = [] ∧ s.bufs = [])) ∧
    Accum.Inv (frag a s.bufs s.fin (fun _ => s.answer)).1
      (ghostStep g s (frag a s.bufs s.fin (fun _ => s.answer)).2.isSome) := by
  obtain ⟨f1, f2, _⟩ := frag_spec a g s h hne
  exact ⟨f1, f2⟩

/-- a NAL with at least one byte whose handler never answered Ignore gets exactly one complete invocation, carrying
the whole NAL (all earlier invocations for it are flagged incomplete) -/
theorem exactly_one_complete (pre : List Step) (last : Step)
    (hpre : ∀ s ∈ pre, s.fin = false ∧ s.answer = .buffer) (hlast : last.fin = true)
    (hne : bytesOf (pre ++ [last]) ≠ []) (rest : List Step) :
    ∃ l, specRun ⟨[], false⟩ (pre ++ last :: rest) = l ++ (bytesOf (pre ++ [last]), true) :: specRun ⟨[], false⟩ rest ∧
      ∀ e ∈ l, e.2 = false := one_complete_invocation pre last hpre hlast hne rest

/-- after Ignore the handler is not invoked again for that NAL, and the next NAL starts clean -/
theorem silent_after_ignore (sofar : List UInt8) (pre : List Step) (last : Step) (rest : List Step)
    (hpre : ∀ s ∈ pre, s.fin = false) (hlast : last.fin = true) :
    specRun ⟨sofar, true⟩ (pre ++ last :: rest) = specRun ⟨[], false⟩ rest :=
  ignored_is_silent sofar pre last rest hpre hlast

/-- no byte or decision of one NAL carries over into the next: ending a NAL leaves the freshly constructed state -/
theorem nothing_carries_over (a : Acc) (bufs : List (List UInt8)) (d : Invocation → Interest) :
    (frag a bufs true d).1 = init := frag_end_init a bufs d

/-- non-vacuity: Buffer, then Ignore, then the end; then a second NAL -/
example : obs (run init [⟨[[1, 2]], false, .buffer⟩, ⟨[[3]], false, .ignore⟩, ⟨[[4]], true, .buffer⟩, ⟨[[5]], true, .buffer⟩] []).2 =
    [([1, 2], false), ([1, 2, 3], false), ([5], true)] := by decide

/-- **call-level model = real code on a complete small domain, by proof**: every sequence of up to three deliveries out of
five shapes (empty end, one slice, one slice + end, two slices, two slices + end) × two handler answers (1 111 histories):
the model invokes the handler on the same deliveries, with the same bytes and completeness flag, as the real
`NalAccumulator` did in this run's graph -/
theorem model_accumulator_reproduces_code : (SmallProof.allSeqs 10).map SmallProof.accRow = Generated.accRows :=
  SmallProof.acc_model_eq_code

end C08
