import H264.SeiPayloadsFwd
import H264.C20T35
import H264.Tables2C11
import H264.TblProofC11
/-! # C11 — SEI payload parsers (buffering period, pic timing, T.35) recover encoded values

Models: `SeiPayload.readPicTiming s`, `readBufferingPeriod spsById`, `readT35` mirror `PicTiming::read`,
`BufferingPeriod::read`, `ItuTT35::read` on the payload bits / bytes. Encoders transcribed from D.1.1, D.1.2, D.1.6.
The SPS `s` selects widths and presences (E.1.1 / E.1.2): which HRD supplies the delay widths (NAL first, else VCL),
`time_offset_length`, `pic_struct_present_flag`. `SeiTail`: the payload ends byte-aligned or with `1 0*`. -/
namespace C11
open SeiPayload

/-- **pic_timing**: for every SPS VUI shape (no VUI, NAL HRD only, VCL HRD only, both; any widths; time_offset_length
0…31; pic_struct_present on/off) and every payload value within the coded ranges, parsing returns exactly the encoded
values: CPB/DPB delays whenever either HRD is present with that HRD's widths, pic_struct and NumClockTS timestamps -/
theorem pic_timing_round_trip (s : Sps.Sps) (p : PicTimingSyn)
    (w1 : DelaysWF (delayHrd s) p.delays) (w2 : PicStructWF s p.picStruct) (tail : List Bool) (ht : SeiTail tail) :
    readPicTiming s ⟨encPicTiming s p ++ tail, .eof⟩ = .ok (p.value, ⟨[], .eof⟩) :=
  readPicTiming_enc s p w1 w2 tail ht

/-- which HRD supplies the widths: the NAL HRD if present, otherwise the VCL HRD, otherwise no delays are coded -/
theorem delay_hrd_choice (s : Sps.Sps) (v : Sps.Vui) (hv : s.vui = some v) :
    delayHrd s = (match v.nalHrd with | some h => some h | none => v.vclHrd) := by
  simp only [delayHrd, hv]; cases v.nalHrd <;> rfl

/-- the signed `i(v)` time offset of every declared width 1…31 round-trips; width 0 codes nothing -/
theorem time_offset_signed (tol : Nat) (o : Option Int) (wf : TimeOffsetWF tol o) (rest fin) :
    readTimeOffset tol ⟨encTimeOffset tol o ++ rest, fin⟩ = .ok (o, ⟨rest, fin⟩) := readTimeOffset_enc tol o wf rest fin

/-- NumClockTS per Table D-1 -/
theorem num_clock_ts_table : (List.range 16).map numClockTs = [1, 1, 1, 2, 2, 3, 3, 2, 3, 0, 0, 0, 0, 0, 0, 0] := by decide

/-- **buffering_period**: one delay pair per CPB for each HRD that is present, of the width that HRD declares -/
theorem buffering_period_round_trip (spsById : Nat → Option Sps.Sps) (s : Sps.Sps) (b : BufferingPeriod)
    (hid : s.spsId ≤ 31) (hctx : spsById s.spsId = some s)
    (wn : HrdBpWF (nalHrdOf s) b.nalHrdBp) (wv : HrdBpWF (vclHrdOf s) b.vclHrdBp)
    (tail : List Bool) (ht : SeiTail tail) :
    readBufferingPeriod spsById ⟨encBufferingPeriod s b ++ tail, .eof⟩ = .ok (b, ⟨[], .eof⟩) :=
  readBufferingPeriod_enc spsById s b hid hctx wn wv tail ht

/-- **T.35**: country code (and extension byte) and the remaining payload starting immediately after them -/
theorem t35_code (b : Nat) (hb : b < 255) (rest : List UInt8) :
    readT35 (encT35 (.code b) ++ rest) = .ok (.code b) rest := readT35_code b hb rest
theorem t35_extended (e : Nat) (he : e < 256) (rest : List UInt8) :
    readT35 (encT35 (.extended e) ++ rest) = .ok (.extended e) rest := readT35_extended e he rest
theorem t35_exact (p : List UInt8) (c : T35Code) (rest : List UInt8) (h : readT35 p = .ok c rest) :
    (∃ b, c = .code b ∧ b < 255 ∧ p = UInt8.ofNat b :: rest) ∨
    (∃ e, c = .extended e ∧ e < 256 ∧ p = 0xFF :: UInt8.ofNat e :: rest) := readT35_exact p c rest h

/-- the running code's table (extracted graph, all 256 country bytes): named countries are exactly the codes
`00…C4`, `FF` is the extension escape, everything else comes back as `Unknown(code)`; remainder offsets 1 / 2 -/
theorem t35_table_of_the_code : Generated.t35.length = 256 ∧ ∀ b : Fin 256,
    Generated.t35.getD b.val (9,9) = (if b.val ≤ 0xC4 then (0, 1) else if b.val = 0xFF then (2, 2) else (1, 1)) :=
  _root_.C20.t35_table

/-- … and the named values are pairwise distinct, so the code is recoverable from the returned value: the k-th byte
yields the k-th distinct value -/
theorem t35_values_distinct : ∀ b : Fin 197, Generated.t35Value.getD b.val 999 = b.val :=
  getD_of_take_eq_ofFn (by decide +kernel) _

/-- non-vacuity: an SPS shape with only a VCL HRD still gets its delays (the D7 regression) -/
example : DelaysWF (some (⟨0, 0, [⟨0, 0, false⟩], 3, 4, 5, 6⟩ : Sps.Hrd)) (some (31, 63)) := by
  exact ⟨31, 63, rfl, by decide, by decide⟩

/-- the public accessors `seconds() / minutes() / hours()` of a parsed clock timestamp return the coded parts, and 0 for
the parts that the coded flags left out (model of the three accessor functions; exercised on every pic_timing case) -/
theorem smh_accessors (x y z : Nat) :
    (SeiPayload.SecMinHour.smh x y z).seconds = x ∧ (SeiPayload.SecMinHour.smh x y z).minutes = y ∧
    (SeiPayload.SecMinHour.smh x y z).hours = z ∧
    (SeiPayload.SecMinHour.sm x y).seconds = x ∧ (SeiPayload.SecMinHour.sm x y).minutes = y ∧
    (SeiPayload.SecMinHour.sm x y).hours = 0 ∧
    (SeiPayload.SecMinHour.s x).seconds = x ∧ (SeiPayload.SecMinHour.s x).minutes = 0 ∧ (SeiPayload.SecMinHour.s x).hours = 0 ∧
    SeiPayload.SecMinHour.none.seconds = 0 ∧ SeiPayload.SecMinHour.none.minutes = 0 ∧ SeiPayload.SecMinHour.none.hours = 0 :=
  ⟨rfl, rfl, rfl, rfl, rfl, rfl, rfl, rfl, rfl, rfl, rfl, rfl⟩

/-- Table D-1 in the running code (graph extracted through `PicTiming::read` on every run): every pic_struct value is
accepted as its own distinct value and the number of clock-timestamp slots read is the model's `numClockTs` -/
theorem code_pic_struct_table : Generated.picStruct.length = 16 ∧
    (∀ p : Fin 16, (Generated.picStruct.getD p.val (0,0,0)).1 = 1 ∧
      (Generated.picStruct.getD p.val (0,0,0)).2.2 = SeiPayload.numClockTs p.val) ∧
    (∀ i j : Fin 16, (Generated.picStruct.getD i.val (0,0,0)).2.1 = (Generated.picStruct.getD j.val (0,0,0)).2.1 → i = j) :=
  Tables2.picStruct_table

/-- model `readPicTiming` = real `PicTiming::read` on the 16 swept pic_struct payloads (accepted, value, number of
clock-timestamp slots), by proof -/
theorem model_parser_reproduces_code_on_pic_struct_sweep :
    ∀ p : Fin 16, TblProof.picStructCode p.val = Generated.picStruct.getD p.val (9, 9, 9) := TblProof.picStruct_model_eq_code

end C11
