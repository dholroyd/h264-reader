import H264.RefNalProofs
import H264.RbspInit
import H264.C20Hdr
import H264.SmallProofC15
/-! # C15 — A NAL over head + tail chunks reads as their concatenation; partial NALs block

Model: `Rbsp.Chunked` = `RefNalReader { cur, tail, complete }` with `read` / `fill_buf` / `consume`; a clone is the same
value (the real `Clone` is exercised by the correspondence scripts). `WF`: the chunks are non-empty.
The header accessors are covered by the function graph extracted from the running code (`Generated.hdr`). -/
namespace C15
open Rbsp

/-- every interleaving of `read(n ≥ 0)` / `fill_buf` / `consume(k ≤ available)` / `clone` on the reader of any chunking
delivers the concatenated bytes, each once and in order: delivered ++ still-to-come = all bytes -/
theorem reads_as_concatenation (chunks : List (List UInt8)) (complete : Bool) (hne : ∀ c ∈ chunks, c ≠ [])
    (ops : List Chunked.Op) :
    let c := NalSrc.mkChunked chunks complete
    (Chunked.runOps c ops []).2 ++ (Chunked.runOps c ops []).1.rest = chunks.flatten ∧
    (Chunked.runOps c ops []).1.complete = complete := by
  intro c
  obtain ⟨_, h2, h3⟩ := Chunked.runOps_spec c (mkChunked_wf chunks complete hne) ops []
  rw [mkChunked_rest] at h2
  refine ⟨by simpa using h2, ?_⟩
  rw [h3]; cases chunks <;> rfl

/-- `read` hands out the next bytes; 0 bytes only for a 0-length buffer or at the end of a complete NAL; `WouldBlock`
only at the end of an incomplete NAL, leaving the reader unchanged -/
theorem read_contract (c : Chunked) (hwf : c.WF) (n : Nat) :
    (c.read n).1.WF ∧ (c.read n).1.complete = c.complete ∧
    (match (c.read n).2 with
     | .ok bs => bs ++ (c.read n).1.rest = c.rest ∧ bs.length ≤ n ∧
          (bs = [] → n = 0 ∨ (c.rest = [] ∧ c.complete = true))
     | .error .wouldBlock => (c.read n).1 = c ∧ c.rest = [] ∧ c.complete = false ∧ n ≠ 0
     | .error _ => False) := Chunked.read_spec c hwf n

/-- after the last byte: a complete NAL reports end of data, an incomplete one `WouldBlock` — never end of data -/
theorem fill_buf_at_end (c : Chunked) (hwf : c.WF) (h : c.rest = []) :
    c.fillBuf = (if c.complete then .ok [] else .error .wouldBlock) := Chunked.fillBuf_at_end c hwf h

/-- before the end `fill_buf` always shows a non-empty chunk -/
theorem fill_buf_before_end (c : Chunked) (hwf : c.WF) (h : c.rest ≠ []) :
    c.fillBuf = .ok c.cur ∧ c.cur ≠ [] := Chunked.fillBuf_nonempty c hwf h

/-- … and it stays that way: at the end `read` and `consume 0` leave a reader that is still at the end -/
theorem end_is_stable (c : Chunked) (hwf : c.WF) (h : c.rest = []) (n : Nat) :
    (c.read n).1.rest = [] ∧ (c.read n).1.complete = c.complete ∧ (c.consume 0).rest = [] ∧
    (c.read n).2 = (if n = 0 then .ok [] else if c.complete then .ok [] else .error .wouldBlock) := by
  have hc : c.cur = [] := by simp only [Chunked.rest, List.append_eq_nil_iff] at h; exact h.1
  have ht : c.tail = [] := hwf.2 hc
  unfold Chunked.read Chunked.consume Chunked.nextChunk Chunked.rest
  by_cases h0 : n = 0
  · simp [h0, hc, ht]
  · cases hcm : c.complete <;> simp [h0, hc, ht, hcm]

/-- header accessors, all 256 first bytes (graph extracted from the running code): refused exactly when the top bit
is set; otherwise nal_ref_idc / nal_unit_type are bits 5–6 / 0–4 -/
theorem header_accessors : Generated.hdr.length = 256 ∧ ∀ b : Fin 256,
    (Generated.hdr.getD b.val (9,9,9)).1 = (if b.val ≥ 128 then 0 else 1) ∧
    (b.val < 128 → (Generated.hdr.getD b.val (9,9,9)).2.1 = b.val / 32 % 4 ∧
      (Generated.hdr.getD b.val (9,9,9)).2.2 = b.val % 32) := _root_.C20.header_bytes

/-- non-vacuity -/
example : (NalSrc.mkChunked [[0x65, 1], [2], [3, 4]] false).WF := mkChunked_wf _ _ (by simp)

/-- **call-level model = real code on a complete small domain, by proof**: a four-byte NAL in every chunking (8 compositions),
complete and incomplete, drained by six programs (reads of 1 / 2 / 3 / 5 bytes, fill + consume all, fill + consume 1): the
model reader delivers what the real `RefNalReader` delivered in this run's graph, ends the same way (end of data vs
WouldBlock) and answers the same when asked again -/
theorem model_reader_reproduces_code : (List.range 96).map SmallProof.refnalRow = Generated.refnalRows :=
  SmallProof.refnal_model_eq_code

end C15
