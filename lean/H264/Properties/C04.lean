import H264.SpsC04
import H264.SpsConverse
import H264.Tables2C04
import H264.TblProofC04
/-! # C04 — SPS parsing recovers exactly the values encoded per H.264 7.3.2.1 / Annex E

Model: `Sps.parseSps` mirrors `SeqParameterSet::from_bits` and all its sub-readers (same order of reads and checks).
Spec: `Sps.encSps v sm` — the encoder transcribed from the syntax tables 7.3.2.1.1, 7.3.2.1.1.1, E.1.1, E.1.2 (it never
looks at the Rust); `sm` is the *coded* scaling-list syntax (delta_scale sequences) and `v` holds the *derived* lists,
related by the standard's scaling_list() process `specFill` (`MatrixDerives`). `Sps.WF`: the standard's ranges.
`trailing z` = rbsp_trailing_bits followed by `z` zero bits.

Scope hypothesis `mvcOnlyProfile v.profileIdc = false`: the property is about AVC profile_idc classes; for the MVC/3D
ids 118, 128, 134, 135, 138, 139 (Annex H/I/J subset SPS) the library's list of profiles carrying the chroma syntax
deviates from newer editions of 7.3.2.1.1 (recorded in DESIGN.md, not a listed property). -/
namespace C04
open Sps Bits

/-- **forward**: every SPS within the standard's ranges, encoded with the standard's syntax, followed by the RBSP
trailing bits and any number of zero bits, parses to exactly the encoded values and consumes everything -/
theorem forward (v : Sps) (sm : Option ScalingSyntax) (wf : v.WF sm)
    (hmvc : mvcOnlyProfile v.profileIdc = false) (z : Nat) :
    parseSps ⟨encSps v sm ++ trailing z, .eof⟩ = .ok (v, ⟨[], .eof⟩) := C04_forward v sm wf hmvc z

/-- **converse**: whatever the parser accepts is the standard's encoding of the returned structure (for some coded
scaling syntax deriving the returned lists; `none` when there are no lists) followed by trailing bits and zero bits
only — no bit is skipped, read twice or interpreted differently — the result is within every range of `WF`, and the
parser had to see the true end of the RBSP -/
theorem converse (s s' : Src) (v : Sps) (h : parseSps s = .ok (v, s'))
    (hmvc : mvcOnlyProfile v.profileIdc = false) :
    ∃ sm z, v.WF sm ∧ s.bits = encSps v sm ++ trailing z ∧ s.fin = .eof := C04_converse s s' v h hmvc

/-- scaling lists, forward: the list read is the standard's process run on the coded deltas — wrap-around modulo 256,
early termination (`next = 0` keeps `last`), and the use-default flag (first delta giving 0) -/
theorem scaling_list_process (n j last next : Nat) (ud : Bool) (acc : List Nat) (ds : List Int)
    (l : List Nat) (u : Bool) (hs : specFill n j last next ud ds = some (l, u))
    (hd : ∀ d ∈ ds, -128 ≤ d ∧ d ≤ 127) (rest fin) :
    fillScalingList n j last next ud acc ⟨(ds.map encSe).flatten ++ rest, fin⟩
      = .ok ((acc.reverse ++ l, u), ⟨rest, fin⟩) := fillScalingList_enc n j last next ud acc ds l u hs hd rest fin

/-- scaling lists, converse: what was read is that process run on *some* in-range delta sequence that is exactly the
consumed bits -/
theorem scaling_list_exact (n j last next : Nat) (ud : Bool) (acc : List Nat) (s s' : Src)
    (l' : List Nat) (u : Bool) (h : fillScalingList n j last next ud acc s = .ok ((l', u), s')) :
    ∃ ds l, specFill n j last next ud ds = some (l, u) ∧ l' = acc.reverse ++ l ∧
      (∀ d ∈ ds, -128 ≤ d ∧ d ≤ 127) ∧ s.bits = (ds.map encSe).flatten ++ s'.bits ∧ s'.fin = s.fin :=
  fillScalingList_exact n j last next ud acc s s' l' u h

/-- the only place where the spec borrows nothing from the code: the two profile lists agree outside the MVC ids -/
theorem profile_lists_agree (p : Nat) (h : mvcOnlyProfile p = false) : hasChromaInfo p = stdHasChromaInfo p :=
  hasChromaInfo_std p h

/-- non-vacuity: a concrete 4:2:0 High-profile field-coded SPS with POC type 1, cropping, VUI and a NAL HRD satisfies
`WF` (proved next to the forward theorem, `Sps.sample`) and is outside the excluded ids -/
example : mvcOnlyProfile sample.profileIdc = false := by decide

/-! ### tables of the running code (graphs extracted through `SeqParameterSet::from_bits` on every run) -/

/-- the profile list that decides whether chroma information is read is, in the running code, the model's list — for
all 256 `profile_idc` values (regenerated and re-decided by the kernel on every run) -/
theorem code_profile_list_is_model_list : Generated.hasChroma.length = 256 ∧
    ∀ b : Fin 256, Generated.hasChroma.getD b.val 9 = (if Sps.hasChromaInfo b.val then 1 else 0) :=
  Tables2.hasChroma_eq_model

/-- every `aspect_ratio_idc` is recovered (no two coded values are parsed to the same value) and the reported sample
aspect ratio is Table E-1; `Extended_SAR` returns the coded pair -/
theorem code_aspect_ratio_table : Generated.aspect.length = 256 ∧
    (∀ i j : Fin 256, (Generated.aspect.getD i.val (999,0,0)).1 = (Generated.aspect.getD j.val (999,0,0)).1 → i = j) ∧
    (∀ b : Fin 256, (Generated.aspect.getD b.val (999,0,0)).1 < 998) ∧
    (∀ b : Fin 256, (Generated.aspect.getD b.val (999,0,0)).2 =
      (if b.val = 255 then (0x1234, 0x0567) else Tables2.tableE1 b.val)) := Tables2.aspect_table

/-- `video_format` and `chroma_format_idc`: every coded value is parsed to its own distinct value -/
theorem code_video_format_recovered : Generated.videoFormat.length = 8 ∧
    (∀ i j : Fin 8, Generated.videoFormat.getD i.val 999 = Generated.videoFormat.getD j.val 999 → i = j) ∧
    (∀ i : Fin 8, Generated.videoFormat.getD i.val 999 < 998) := Tables2.videoFormat_injective
theorem code_chroma_format_recovered : Generated.chromaFormat.length = 16 ∧
    (∀ i : Fin 4, (Generated.chromaFormat.getD i.val (0,0)).1 = 1) ∧
    (∀ i j : Fin 4, (Generated.chromaFormat.getD i.val (0,0)).2 = (Generated.chromaFormat.getD j.val (0,0)).2 → i = j) :=
  Tables2.chromaFormat_table

/-- **model parser = real parser on the swept frames, by proof**: for every aspect_ratio_idc / video_format /
chroma_format_idc, running the *model* `Sps.parseSps` on the very bit string the harness fed to
`SeqParameterSet::from_bits` yields the row the real parser produced (regenerated and re-decided by the kernel on every run) -/
theorem model_parser_reproduces_code_on_aspect_ratio_sweep :
    ∀ b : Fin 256, TblProof.aspectCode b.val = some (Generated.aspect.getD b.val (999, 0, 0)) := TblProof.aspect_model_eq_code
theorem model_parser_reproduces_code_on_video_format_sweep :
    ∀ i : Fin 8, TblProof.videoFormatCode i.val = some (Generated.videoFormat.getD i.val 999) := TblProof.videoFormat_model_eq_code
theorem model_parser_reproduces_code_on_chroma_format_sweep :
    ∀ i : Fin 16, TblProof.chromaFormatCode i.val = Generated.chromaFormat.getD i.val (9, 9) := TblProof.chromaFormat_model_eq_code

end C04
