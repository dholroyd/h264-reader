import H264.Derived
import H264.C20Prof
import H264.SmallProofC13
/-! # C13 — SPS-derived values (size, fps, level, profile, codec string) match the standard

`pixelDimensions` mirrors `SeqParameterSet::pixel_dimensions` with every `checked_mul` / `checked_sub` of the Rust as
the guard it is; the right-hand sides below are the standard's formulas (7.4.2.1.1, Table 6-1) on unbounded ℕ:
width = 16·PicWidthInMbs − CropUnitX·(left+right), height = 16·(2−frame_mbs_only)·PicHeightInMapUnits −
CropUnitY·(top+bottom), CropUnitX = SubWidthC, CropUnitY = SubHeightC·(2−frame_mbs_only) (1 and (2−frame_mbs_only) for
monochrome / separate planes, as the library treats ChromaArrayType). -/
namespace C13
open Sps

/-- the result is `Ok` exactly when no product exceeds 32 bits and the crop does not exceed the picture, and then it is
the standard's formula; otherwise it is an error — for every SPS value -/
theorem pixel_dimensions_exact (s : Sps) :
    (DimsOk s → pixelDimensions s =
      .ok (lumaWidth s - ((cropOf s).left + (cropOf s).right) * cropUnitX s,
           lumaHeight s - ((cropOf s).top + (cropOf s).bottom) * cropUnitY s)) ∧
    (¬ DimsOk s → ∃ e, pixelDimensions s = .error e) := C13_dims s

/-- crop units: chroma-format units horizontally; vertically they also double for field / MBAFF coding -/
theorem crop_units (s : Sps) :
    cropUnitX s = (if s.chromaInfo.chromaFormat = .yuv420 ∨ s.chromaInfo.chromaFormat = .yuv422 then 2 else 1) ∧
    cropUnitY s = (match s.frameMbsFlags with | .fields _ => 2 | .frames => 1) *
                  (if s.chromaInfo.chromaFormat = .yuv420 then 2 else 1) := by
  unfold cropUnitX cropUnitY hsubOf vsubOf mulOf
  constructor
  · split <;> simp
  · cases s.frameMbsFlags <;> by_cases h : s.chromaInfo.chromaFormat = .yuv420 <;> simp [h]

/-- no wrap-around in the map-unit product either: it saturates at 2³²−1, a value that no `ue(v)` read can return (so the
range checks that compare parsed values with it stay exact) -/
theorem pic_size_saturates (s : Sps) :
    picSizeInMapUnits s = min (picWidthInMbs s * picHeightInMapUnits s) (2^32 - 1) := rfl

/-- frame rate: defined exactly when timing info is present, as time_scale / (2 · num_units_in_tick) (returned here
as the exact pair; the implementation divides the two as `f64`, compared bit-exactly by the correspondence run) -/
theorem fps_when_timing_present (s : Sps) (v : Vui) (t : TimingInfo) (hv : s.vui = some v) (ht : v.timingInfo = some t) :
    fpsOf s = some (t.timeScale, t.numUnitsInTick) := by simp [fpsOf, hv, ht]

theorem fps_absent (s : Sps) : (s.vui = none ∨ ∃ v, s.vui = some v ∧ v.timingInfo = none) → fpsOf s = none := by
  rintro (h | ⟨v, hv, ht⟩) <;> simp [fpsOf, *]

/-- RFC 6381: `avc1.` followed by the three header bytes in hex -/
theorem codec_string (s : Sps) :
    rfc6381 s = "avc1." ++ hex2U s.profileIdc ++ hex2U s.constraintFlags ++ hex2U s.levelIdc := rfl

/-- level and profile enumerations map back to the idc they came from — over the graphs extracted from the running
code, all 256 profile_idc values and all 2¹⁶ (flags, level_idc) pairs -/
theorem profile_maps_back : ∀ b : Fin 256, Generated.profileRoundTrip.getD b.val 999 = b.val :=
  _root_.C20.profile_roundtrip.2

theorem level_maps_back (f l : Fin 256) : (_root_.C20.level f.val l.val).1 = l.val :=
  (_root_.C20.level_roundtrip f l).1

/-- non-vacuity: 1920×1080 (120×68 macroblocks, crop 4 at the bottom in 4:2:0 frame coding) -/
def sample1080 : Sps :=
  { profileIdc := 100, constraintFlags := 0, levelIdc := 40, spsId := 0,
    chromaInfo := {}, log2MaxFrameNumMinus4 := 0, picOrderCnt := .typeTwo,
    maxNumRefFrames := 1, gapsInFrameNumValueAllowedFlag := false, picWidthInMbsMinus1 := 119,
    picHeightInMapUnitsMinus1 := 67, frameMbsFlags := .frames, direct8x8InferenceFlag := true,
    frameCropping := some ⟨0, 0, 0, 4⟩, vui := none }
example : pixelDimensions sample1080 = .ok (1920, 1080) := by
  simp [pixelDimensions, sample1080, lumaWidth, lumaHeight, mulOf, cropUnitX, cropUnitY, hsubOf, vsubOf, U32]

/-- **model = real code on a complete small domain, by proof**: a grid of 720 High-profile SPS (chroma_format_idc 0…3 and 4:4:4 with
separate planes × frame / field coding × 1…2 × 1…2 macroblocks × every crop-offset pattern in {0,1}⁴ and one crop larger than
the picture): the model parser followed by the model `pixelDimensions` gives what the real `from_bits` + `pixel_dimensions()`
gave in this run's graph, the values and the error alike -/
theorem model_dimensions_reproduce_code : SmallProof.dimsInputs.map SmallProof.dimsRow = Generated.dimsRows :=
  SmallProof.dims_model_eq_code

/-- the named levels are exactly those of Table A-1 (graph of the running code, re-decided on every run) -/
theorem named_levels_are_table_A1 : Generated.levelKnown.length = 256 ∧ ∀ l : Fin 256,
    Generated.levelKnown.getD l.val 9 = (if [10, 11, 12, 13, 20, 21, 22, 30, 31, 32, 40, 41, 42, 50, 51, 52, 60, 61, 62].contains l.val then 1 else 0) :=
  _root_.C20.level_known

end C13
