import H264.RbspInit
import H264.DecodeNal
import H264.DecodeNalSpec
import H264.ByteProofC02
/-! # C02 — RBSP extraction removes exactly the emulation-prevention bytes, for any chunking

Model: `Rbsp.BR` mirrors `rbsp::ByteReader` at call level (`try_fill_buf_slow` scanner, `fill_buf`, `consume`, `read`)
over the chunked inner reader `Rbsp.Chunked` (= `RefNalReader`), with the scan window `maxFill` a parameter.
Spec: `Rbsp.unesc` — declarative removal over 3-byte windows (`00 00 03` drops the `03`, which must be followed by a
byte ≤ 3 or by the end; `00 00 00` is invalid); `Rbsp.escape` — the encoder's insertion rule of 7.4.1.1. -/
namespace C02
open Rbsp

/-- **streaming reader, every access pattern**: for every chunking of the NAL into non-empty chunks, complete or not,
every header skip count, every window size ≥ 1 and every program of `fill_buf` / `consume k` / `read n` calls, the
bytes delivered so far followed by what the reader still holds are exactly `unesc (nal.drop skip)`, and validity of
the remainder never changes — so nothing is delivered twice, reordered, or past a forbidden sequence -/
theorem stream_delivers_unesc (chunks : List (List UInt8)) (complete : Bool) (skip maxFill : Nat)
    (hne : ∀ c ∈ chunks, c ≠ []) (hmf : 1 ≤ maxFill) (ops : List Op) :
    let r := initReader chunks complete skip maxFill
    (runOps r ops []).2 ++ (view (runOps r ops []).1).1 = (unesc (chunks.flatten.drop skip)).1 ∧
    (view (runOps r ops []).1).2 = (unesc (chunks.flatten.drop skip)).2 := by
  intro r
  obtain ⟨_, h2, h3⟩ := runOps_spec r (initReader_inv chunks complete skip maxFill hne hmf) ops []
  rw [show view r = _ from initReader_view_unesc chunks complete skip maxFill] at h2 h3
  exact ⟨by simpa using h2, h3⟩

/-- in particular the delivered bytes are a prefix of the un-escaped payload, whatever the program -/
theorem delivered_is_prefix (chunks : List (List UInt8)) (complete : Bool) (skip maxFill : Nat)
    (hne : ∀ c ∈ chunks, c ≠ []) (hmf : 1 ≤ maxFill) (ops : List Op) :
    (runOps (initReader chunks complete skip maxFill) ops []).2 <+: (unesc (chunks.flatten.drop skip)).1 := by
  obtain ⟨h, _⟩ := stream_delivers_unesc chunks complete skip maxFill hne hmf ops
  exact ⟨_, h⟩

/-- two chunkings of the same bytes give the reader the same view (so, by `stream_delivers_unesc`, every program delivers
a prefix of the same bytes) -/
theorem chunking_irrelevant (c₁ c₂ : List (List UInt8)) (complete : Bool) (skip m₁ m₂ : Nat)
    (h : c₁.flatten = c₂.flatten) :
    view (initReader c₁ complete skip m₁) = view (initReader c₂ complete skip m₂) := by
  rw [initReader_view, initReader_view, h]

/-- `fill_buf` contract: returns a prefix of what remains, empty only at the genuine end of a complete NAL;
`WouldBlock` only for an incomplete NAL whose buffered part is exhausted; `InvalidData` only if the rest is invalid -/
theorem fill_buf_contract (r : BR) (hinv : Inv r) :
    Inv (fillBuf r).1 ∧ view (fillBuf r).1 = view r ∧
    (match (fillBuf r).2 with
     | .ok buf => buf <+: (view r).1 ∧ (buf = [] → (view r) = ([], true) ∧ r.inner.complete = true)
     | .error .wouldBlock => r.inner.complete = false ∧ (view r) = ([], true)
     | .error .invalidData => (view r).2 = false
     | .error .eof => False) := by
  obtain ⟨f1, f2, _, _, f5⟩ := fillBuf_spec r hinv
  refine ⟨f1, f2, ?_⟩
  cases hres : (fillBuf r).2 with
  | error k => rw [hres] at f5; cases k <;> exact f5
  | ok buf => rw [hres] at f5; exact ⟨f5.2.1, f5.2.2⟩

/-- `read` contract: returns the next bytes of the view, 0 bytes only for `n = 0` or at the genuine end -/
theorem read_contract (r : BR) (hinv : Inv r) (n : Nat) :
    Inv (read r n).1 ∧
    (match (read r n).2 with
     | .ok bs => bs = (view r).1.take bs.length ∧ bs.length ≤ n ∧
          view (read r n).1 = ((view r).1.drop bs.length, (view r).2) ∧
          (bs = [] → n = 0 ∨ (view r = ([], true) ∧ r.inner.complete = true))
     | .error .wouldBlock => view (read r n).1 = view r ∧ r.inner.complete = false ∧ view r = ([], true)
     | .error .invalidData => view (read r n).1 = view r ∧ (view r).2 = false
     | .error .eof => False) := by
  obtain ⟨h1, _, h3⟩ := read_spec r hinv n
  exact ⟨h1, h3⟩

/-- the scanner's state machine computes the declarative window semantics -/
theorem scanner_is_window_spec (xs : List UInt8) : unescFrom .start xs = unesc xs := unescFrom_start_eq xs

/-- decoding the escaped form of *any* payload returns that payload -/
theorem escape_roundtrip (p : List UInt8) : unesc (escape p) = (p, true) := unesc_escape p

/-- **one-shot decoder**: `decode_nal` yields exactly the declarative un-escaping of everything after the header byte;
it reports `InvalidData` exactly when that is invalid; and it borrows its input exactly when nothing had to be removed
(also for the empty and the header-only NAL) -/
theorem oneshot_decoder (nal : List UInt8) :
    decodeNal nal =
      if (unesc (nal.drop 1)).2 then .ok (decide ((unesc (nal.drop 1)).1 = nal.drop 1), (unesc (nal.drop 1)).1)
      else .error .invalidData := decodeNal_eq nal

/-- so the one-shot decoder and every run-to-the-end of the streaming reader agree, whatever the chunking -/
theorem oneshot_agrees_with_stream (nal : List UInt8) (chunks : List (List UInt8)) (complete : Bool) (maxFill : Nat)
    (hflat : chunks.flatten = nal) (b : Bool) (out : List UInt8) (h : decodeNal nal = .ok (b, out)) :
    view (initReader chunks complete 1 maxFill) = (out, true) := by
  rw [initReader_view_unesc, hflat, decodeNal_ok h]

/-- non-vacuity: a NAL cut inside its escape sequence, header skipped -/
example : (unesc ([0x65, 0x01, 0x00, 0x00, 0x03, 0x01, 0x00, 0x00, 0x03].drop 1)) = ([0x01, 0x00, 0x00, 0x01, 0x00, 0x00], true) := by
  simp [unesc, okAfter03]
example : Inv (initReader [[0x65, 0x01, 0x00], [0x00], [0x03, 0x01]] false 1 128) :=
  initReader_inv _ _ _ _ (by simp) (by omega)

/-- **call-level model = real code on a complete small domain, by proof**: for every payload of length 0…5 over
{00, 01, 03, 04} behind a header byte (1 365 NALs: every escape, every forbidden sequence, every trailing-zero shape that
fits), the model's `decodeNal` returns what the real `decode_nal` returned in this run's graph (accepted or not, borrowed or
owned, the bytes), and the model `ByteReader` drained by single-byte reads delivers what the real one delivered -/
theorem model_decode_nal_reproduces_code :
    (ByteProof.words [0x00, 0x01, 0x03, 0x04]).map ByteProof.decodeRow = Generated.decodeNalRows := ByteProof.decodeNal_model_eq_code
theorem model_byte_reader_reproduces_code :
    (ByteProof.words [0x00, 0x01, 0x03, 0x04]).map ByteProof.drainRow = Generated.rbspDrainRows := ByteProof.byteReader_model_eq_code

end C02
