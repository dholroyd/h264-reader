import H264.PpsC05
import H264.PpsConverse
import H264.SmallProofC05
/-! # C05 — PPS parsing recovers exactly the values encoded per H.264 7.3.2.2

Model: `Pps.parsePps spsById` mirrors `PicParameterSet::from_bits(ctx, …)`; the context enters as the lookup function.
Spec: `Pps.encPps` transcribed from 7.3.2.2 (map type 0: n+1 run lengths; type 2: **n** rectangles; 3–5: flag + rate;
6: size + ids of ⌈log₂(n+1)⌉ bits; the extension tail gated by more_rbsp_data; 6 / 8 / 12 lists by
transform_8x8_mode_flag × chroma_format_idc of the referenced SPS). `Pps.WF s sm`: the standard's ranges relative to
the referenced SPS `s`. -/
namespace C05
open Pps Bits Sps

/-- **forward**: for every context holding the referenced SPS (luma bit depth in the accepted range), every PPS
within the standard's ranges, encoded per 7.3.2.2 and followed by trailing bits, parses to exactly the encoded values -/
theorem forward (spsById : Nat → Option Sps.Sps) (s : Sps.Sps) (v : Pps) (sm : Option Sps.ScalingSyntax)
    (hctx : spsById v.spsId = some s) (hbd : s.chromaInfo.bitDepthLumaMinus8 ≤ 6)
    (wf : v.WF s sm) (z : Nat) :
    parsePps spsById ⟨encPps v sm ++ trailing z, .eof⟩ = .ok (v, ⟨[], .eof⟩) := C05_forward spsById s v sm hctx hbd wf z

/-- **converse** (stronger than the property asks: rectangles and scaling lists included): an accepted PPS is the
standard's encoding of the returned structure, the referenced SPS is the context entry, every range holds -/
theorem converse (spsById : Nat → Option Sps.Sps) (s s' : Src) (v : Pps)
    (h : parsePps spsById s = .ok (v, s')) :
    ∃ sp sm z, spsById v.spsId = some sp ∧ v.WF sp sm ∧ s.bits = encPps v sm ++ trailing z ∧ s.fin = .eof :=
  C05_converse spsById s s' v h

/-- every slice-group map type is read with exactly the number of elements the standard prescribes -/
theorem slice_groups_forward (s : Sps.Sps) (g : Option SliceGroup)
    (wf : match g with | none => True | some g => g.WF s) (rest fin) :
    readSliceGroups s ⟨encSliceGroups g ++ rest, fin⟩ = .ok (g, ⟨rest, fin⟩) := readSliceGroups_enc s g wf rest fin

/-- the optional tail is detected exactly when data precedes the trailing bits -/
theorem tail_detected_exactly (s : Sps.Sps) (e : Option PpsExtra) (sm : Option Sps.ScalingSyntax)
    (wf : match e with | none => True | some e => e.WF s sm) (z : Nat) :
    readPpsExtra s ⟨encPpsExtra e sm ++ trailing z, .eof⟩ = .ok (e, ⟨trailing z, .eof⟩) := readPpsExtra_enc s e sm wf z

/-- **model = real code on a complete small domain, by proof**: num_slice_groups_minus1 0…8 × slice_group_map_type 0…7, each with the
element counts 7.3.2.2 prescribes (n + 1 run lengths, n rectangles, one change rate, ids of ⌈log₂(n+1)⌉ bits), against a
2 × 2 macroblock SPS parsed by the model: the model PPS parser accepts exactly the PPS the real parser accepted in this run's graph
and returns the same kind of slice group -/
theorem model_parser_reproduces_code_on_map_types : (List.range 72).map SmallProof.ppsMapRow = Generated.ppsMapRows :=
  SmallProof.ppsMap_model_eq_code

end C05
