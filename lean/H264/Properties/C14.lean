import H264.C14
import H264.BitsProofC14
/-! # C14 — more_rbsp_data / trailing-bits checks are exact at every bit position

A position in an RBSP is the list of bits still to be read (`Src.bits`); `fin = eof` is the complete RBSP.
The three theorems are complete outcome tables: for *every* remaining bit string they say which of
value / `RemainingData` / end-of-data error comes out. -/
namespace C14
open Bits

/-- `has_more_rbsp_data`: true exactly when some 1 bit lies strictly after the current bit; the reader does not move -/
theorem more_data_exact (name) (bits : List Bool) :
    hasMore name ⟨bits, .eof⟩ = .ok (!(allZero (bits.drop 1)), ⟨bits, .eof⟩) := hasMore_outcome name bits

theorem more_data_iff (name) (s : Src) (h : s.fin = .eof) :
    hasMore name s = .ok (decide (∃ b ∈ s.bits.drop 1, b = true), s) := hasMore_spec name s h

/-- `finish_rbsp`: succeeds exactly on `1 0*`; otherwise remaining data, or end of data when no 1 bit is left -/
theorem finish_rbsp_table (bits : List Bool) :
    finishRbsp ⟨bits, .eof⟩ =
      match bits with
      | [] => .error (.io "finish" .eof)
      | true :: rest => if allZero rest then .ok ((), ⟨[], .eof⟩) else .error .remaining
      | false :: rest => if allZero rest then .error (.io "finish" .eof) else .error .remaining :=
  finishRbsp_outcome bits

/-- … in the form of the property: success ⇔ next bit 1 and every later bit 0 (any number of trailing zero bytes) -/
theorem finish_rbsp_ok_iff (s : Src) (h : s.fin = .eof) :
    (∃ r, finishRbsp s = .ok r) ↔ ∃ n, s.bits = true :: List.replicate n false := finishRbsp_ok_iff s h

/-- `finish_sei_payload`: additionally succeeds when no bits remain -/
theorem finish_sei_table (bits : List Bool) :
    finishSei ⟨bits, .eof⟩ =
      match bits with
      | [] => .ok ((), ⟨[], .eof⟩)
      | true :: rest => if allZero rest then .ok ((), ⟨[], .eof⟩) else .error .remaining
      | false :: _ => .error .remaining := finishSei_outcome bits

/-- non-vacuity: cabac_zero_words (`0x0000` pairs) after the stop bit are tolerated -/
example : finishRbsp ⟨true :: List.replicate 39 false, .eof⟩ = .ok ((), ⟨[], .eof⟩) := by
  rw [finishRbsp_outcome]; simp [allZero]

/-- on the same complete small domain (first byte × {00, ff, 5a} × bit offset) the model's `hasMore`, `finishRbsp` and
`finishSei` return what the real `has_more_rbsp_data`, `finish_rbsp`, `finish_sei_payload` returned in this run's graph -/
theorem model_end_queries_reproduce_code : ∀ b0 : Fin 256, ∀ j : Fin 24,
    BitsProof.endRow b0.val j.val = (Generated.bitsEnd.getD b0.val []).getD j.val (9, 9, 9) := BitsProof.bits_end_model_eq_code

end C14
