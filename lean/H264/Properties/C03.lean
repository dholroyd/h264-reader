import H264.SliceLoops
import H264.SliceRanges
import H264.C07
import H264.Derived
import H264.AnnexBOps
import H264.RbspInit
import H264.RbspRead
import H264.Properties.C09
import H264.Overflow
import H264.History
import H264.Alloc
/-! # C03 — No input can panic, overflow, hang or over-allocate any parsing entry point

What the model can carry, and what it cannot:

* **panic / abort**: the model has an explicit `panic` outcome where its own control flow could trap: every slice index
  of the AVC configuration record (`Avcc.Res.panic`) and the exhausted fuel of the two slice-header loops
  (`Bits.Err.panic`); `NoPanic p` says no source makes `p` produce it. Arithmetic on parsed values is on ℕ / ℤ in the
  parser models; that the machine expressions agree with it is the ledger of `H264/Overflow.lean` below. The byte-level models (`AnnexB.push/reset`, `Rbsp.fillBuf/read/consume`, `Rbsp.Chunked.*`, `Accum.frag`,
  `Sei.next`) have no panic outcome at all: they are total functions whose every index is guarded structurally.
* **hang**: every model function is accepted by Lean's termination checker (structural recursion, or explicit fuel
  proved sufficient); the two `do … while` loops of the slice header carry fuel `remaining bits + 1` and the lemmas
  below show it is never exhausted, because each iteration consumes a bit.
* **integer overflow**: the arithmetic the parsers perform on parsed values is modelled on ℕ/ℤ together with the
  guards the Rust uses (`checked_*`, range checks before casts); the theorems below show the guarded expressions stay
  inside the machine range, so wrapping and checked builds agree on the model.
* **allocation**: the *size ledger* at the end of this file (`H264/Alloc.lean`) bounds everything the model builds or
  keeps by the input it was built from or by a constant: decoded RBSP ≤ payload, SEI scratch request ≤ 255·input, SEI
  payload + rest ≤ input, parameter-set tables ≤ 32 / 256 slots, SPS lists ≤ 255 / 32 / 6 + 6 (the `with_capacity`
  requests), PPS slice-group ids ≤ input bits, slice-header operation lists ≤ consumed bits. Capacity doubling, the real
  allocator and wall-clock time are runtime behaviour: *measured* on the implementation by the harness (counting
  allocator, call counts; see DESIGN.md, C03) — that part of the claim is labelled partial. -/
namespace C03
open Bits

/-- SPS, PPS, slice header (any context, any NAL header), pic_timing, buffering_period: no input bits and no context
lead to a panic outcome -/
theorem sps_never_panics : NoPanic Sps.parseSps := Sps.closed_parseSps npProp
theorem pps_never_panics (spsById) : NoPanic (Pps.parsePps spsById) := Pps.closed_parsePps npProp spsById
theorem slice_header_never_panics (ctx hdr) : NoPanic (Slice.parseSliceHeader ctx hdr) :=
  Slice.closed_parseSliceHeader npProp Slice.np_readModOpsAuto Slice.np_readMmcosAuto ctx hdr
theorem pic_timing_never_panics (s) : NoPanic (SeiPayload.readPicTiming s) :=
  SeiPayload.closed_readPicTiming npProp np_finishSei s
theorem buffering_period_never_panics (ctx) : NoPanic (SeiPayload.readBufferingPeriod ctx) :=
  SeiPayload.closed_readBufferingPeriod npProp np_finishSei ctx

/-- bit reader primitives -/
theorem ue_never_panics (name) : NoPanic (readUe name) := closed_readUe npProp name
theorem se_never_panics (name) : NoPanic (readSe name) := closed_readSe npProp name
theorem bits_never_panic (name n) : NoPanic (readBits name n) := closed_readBits npProp name n
theorem more_data_never_panics (name) : NoPanic (hasMore name) := npProp.hasMore name
theorem finish_never_panics : NoPanic finishRbsp := npProp.finishRbsp

/-- the two loops terminate: with fuel = remaining bits + 1 the fuel-exhausted outcome is unreachable -/
theorem mod_list_loop_terminates (fuel : Nat) (s : Src) (hf : s.bits.length < fuel) :
    ∀ e, Slice.readModOps fuel s = .error e → e.isPanic = false := Slice.np_readModOps fuel s hf
theorem mmco_loop_terminates (fuel : Nat) (s : Src) (hf : s.bits.length < fuel) :
    ∀ e, Slice.readMmcos fuel s = .error e → e.isPanic = false := Slice.np_readMmcos fuel s hf
/-- each `ue(v)` read consumes at least one bit (the termination measure, and the linear step bound: a parser
performs at most one read per remaining bit in every loop) -/
theorem ue_consumes_a_bit (name) (s s' : Src) (k : Nat) (h : readUe name s = .ok (k, s')) :
    s'.bits.length < s.bits.length := Bits.readUe_consumes name s s' k h

/-- no integer overflow in `golomb_to_signed`: the `u32`/`i32` expression with wrap-around made explicit equals the
mathematical mapping for every value `read_ue` can return -/
theorem se_no_overflow (k : Nat) (h : k < 2^32 - 1) : golombToSignedRust k = seOfUe k := golombToSignedRust_eq k h

/-- `read_ue` returns at most 2³²−2, so `x + 1` on any parsed `u32` cannot overflow -/
theorem ue_plus_one_fits (name) (s s' : Src) (k : Nat) (h : readUe name s = .ok (k, s')) : k + 1 < 2^32 := by
  have := (readUe_exact name s s' k h).1; omega

/-- the map-unit product saturates instead of overflowing, and stays a `u32` -/
theorem pic_size_fits (s : Sps.Sps) : Sps.picSizeInMapUnits s < 2^32 := by
  unfold Sps.picSizeInMapUnits Sps.U32; omega

/-- `pixel_dimensions`: every product and difference is guarded; the result is a value or an error, for every SPS -/
theorem pixel_dimensions_total (s : Sps.Sps) :
    (∃ w h, Sps.pixelDimensions s = .ok (w, h) ∧ w < 2^32 ∧ h < 2^32) ∨ ∃ e, Sps.pixelDimensions s = .error e := by
  by_cases hd : Sps.DimsOk s
  · left
    have := (Sps.C13_dims s).1 hd
    refine ⟨_, _, this, ?_, ?_⟩
    · have := hd.1; unfold Sps.U32 at this; omega
    · have := hd.2.1; unfold Sps.U32 at this; omega
  · right; exact (Sps.C13_dims s).2 hd

/-- SliceQS: computed in 64 bits from two 32-bit values, then range-checked to 0…51 before the cast -/
theorem slice_qs_in_range (fam : Slice.Family) (pps : Pps.Pps) (s s' : Src) (r : Option Bool × Option Nat)
    (h : Slice.readSwitchQs fam pps s = .ok (r, s')) : ∀ q, r.2 = some q → q ≤ 51 :=
  Slice.readSwitchQs_le fam pps s s' r h

/-- AVC configuration record: after successful construction on any bytes no iterator step can index out of bounds -/
theorem avcc_iterators_never_panic (d : List UInt8) (h : Avcc.tryFrom d = .ok ()) :
    (Avcc.spsList d).isPanic = false ∧ (Avcc.ppsList d).isPanic = false := Avcc.validated_noPanic d h
theorem avcc_accessors_never_panic (d : List UInt8) (h : Avcc.tryFrom d = .ok ()) : ∃ f, Avcc.fields d = .ok f :=
  C09.accessors_never_panic d h
theorem avcc_context_creation_never_panics (d : List UInt8) (h : Avcc.tryFrom d = .ok ()) :
    ∀ err, Avcc.createContext d = .error err → err.isPanic = false := C09.context_creation_never_panics d h
/-- construction itself never panics, on any bytes: every index is preceded by its length check -/
theorem avcc_construction_never_panics (d : List UInt8) : (Avcc.tryFrom d).isPanic = false := Avcc.tryFrom_noPanic d

/-- RBSP byte reader: the representation invariant (in particular `i ≤ chunk length`, so `consume` within the
`BufRead` contract cannot underflow and slices stay in bounds) holds for a fresh reader and is preserved by every
operation; `fill_buf` never reports `UnexpectedEof` -/
theorem byte_reader_invariant (chunks : List (List UInt8)) (complete : Bool) (skip maxFill : Nat)
    (hne : ∀ c ∈ chunks, c ≠ []) (hmf : 1 ≤ maxFill) (ops : List Rbsp.Op) :
    Rbsp.Inv (Rbsp.runOps (Rbsp.initReader chunks complete skip maxFill) ops []).1 :=
  (Rbsp.runOps_spec _ (Rbsp.initReader_inv chunks complete skip maxFill hne hmf) ops []).1

/-- Annex B reader: every call of every push/reset sequence is well formed (slices within the pushed buffer,
non-empty) — the index arithmetic of `push` (`start`, `i - backtrack`, `fake` zeros) never leaves the buffer -/
theorem annexb_calls_well_formed (ops : List AnnexB.Op) : ∀ c ∈ (AnnexB.runOps .start ops).2, c.WellShaped :=
  AnnexB.runOps_shaped .start ops

/-! ### machine-arithmetic ledger: the fixed-width expression of each Rust site equals the unbounded model expression
and no intermediate leaves its type, under exactly what the parser has checked at that point (`H264/Overflow.lean`) -/

/-- `read_ue`: `(1 << count) - 1 + val` -/
theorem ue_assembly_no_overflow (count val : Nat) (hc : count ≤ 31) (hv : val < 2^count) :
    count < 32 ∧ 1 ≤ 2^count ∧ Overflow.FitsU32 ((2^count : Nat) : Int) ∧
    Overflow.FitsU32 (((2^count - 1 + val : Nat) : Int)) ∧ 2^count - 1 + val ≤ 2^32 - 2 :=
  Overflow.ue_assembly_fits count val hc hv
/-- `fill_scaling_list`: `(last_scale as i32 + delta_scale + 256) % 256` then `as u8` -/
theorem next_scale_no_overflow (last : Nat) (delta : Int) (hl : 1 ≤ last ∧ last ≤ 255)
    (hd : ¬ (delta < -128 ∨ delta > 127)) :
    Overflow.FitsI32 ((last : Int) + delta) ∧ Overflow.FitsI32 ((last : Int) + delta + 256) ∧
    0 < (last : Int) + delta + 256 ∧ Overflow.FitsU8 (((last : Int) + delta + 256) % 256) ∧
    ((((last : Int) + delta + 256).toNat % 256 : Nat) : Int) = ((last : Int) + delta + 256) % 256 :=
  Overflow.next_scale_fits last delta hl hd
/-- PPS QP bound: `6 * bit_depth_luma_minus8` (u8) and `-(26 + …)` (i32), for every accepted SPS -/
theorem qp_bound_no_overflow (s s' : Src) (v : Sps.Sps) (h : Sps.parseSps s = .ok (v, s')) :
    Overflow.FitsU8 (6 * (v.chromaInfo.bitDepthLumaMinus8 : Int)) ∧
    Overflow.FitsI32 (26 + 6 * (v.chromaInfo.bitDepthLumaMinus8 : Int)) ∧
    Overflow.FitsI32 (-(26 + 6 * (v.chromaInfo.bitDepthLumaMinus8 : Int))) := Overflow.qp_bd_offset_fits s s' v h
/-- slice QS: the 64-bit sum of two 32-bit values and 26 -/
theorem qs_sum_no_overflow (a b : Int) (ha : Overflow.FitsI32 a) (hb : Overflow.FitsI32 b) :
    Overflow.FitsI64 (26 + a) ∧ Overflow.FitsI64 (26 + a + b) ∧ Overflow.wrapI64 (26 + a + b) = 26 + a + b :=
  Overflow.qs_y_fits a b ha hb
/-- `pic_size_in_map_units() - 1` never underflows, for any SPS value -/
theorem pic_size_minus_one_no_underflow (s : Sps.Sps) : 1 ≤ Pps.picSizeInMapUnits s := Overflow.pic_size_pos s
/-- `pic_width_in_mbs()`, `pic_height_in_map_units()`, `log2_max_frame_num()` on accepted SPS -/
theorem helper_increments_no_overflow (s s' : Src) (v : Sps.Sps) (h : Sps.parseSps s = .ok (v, s')) :
    Overflow.FitsU32 ((v.picWidthInMbsMinus1 : Int) + 1) ∧ Overflow.FitsU32 ((v.picHeightInMapUnitsMinus1 : Int) + 1) ∧
    Overflow.FitsU8 ((v.log2MaxFrameNumMinus4 : Int) + 4) :=
  ⟨(Overflow.dims_plus_one_fit s s' v h).1, (Overflow.dims_plus_one_fit s s' v h).2, Overflow.log2_frame_num_fits s s' v h⟩
/-- pic_timing `time_offset`: `((raw << (32 - len)) as i32) >> (32 - len)` is the two's-complement value of the
field, with both shift amounts below the width, for every `len` the reader can be asked for (1…31; 0 is skipped) -/
theorem time_offset_no_overflow (len raw : Nat) (hl : 1 ≤ len ∧ len ≤ 31) (hr : raw < 2^len) :
    32 - len < 32 ∧ len ≤ 32 ∧ Overflow.timeOffsetRust len raw = SeiPayload.signExtend len raw :=
  Overflow.timeOffsetRust_eq len raw hl hr
/-- not vacuous: −1 in a 5-bit field -/
example : Overflow.timeOffsetRust 5 31 = -1 := by decide

/-! ### "any context built from previously accepted parameter sets": the arithmetic the PPS and slice parsers do on
SPS fields taken from the context stays in range for every reachable context -/
theorem reachable_context_qp_bound_no_overflow (ops : List History.Op) (i : Nat) (v : Sps.Sps)
    (h : Ctx.get (History.run ops).sps i = some v) :
    Overflow.FitsU8 (6 * (v.chromaInfo.bitDepthLumaMinus8 : Int)) ∧
    Overflow.FitsI32 (-(26 + 6 * (v.chromaInfo.bitDepthLumaMinus8 : Int))) := History.reachable_qp_bound_fits ops i v h
theorem reachable_context_widths (ops : List History.Op) (i : Nat) (v : Sps.Sps)
    (h : Ctx.get (History.run ops).sps i = some v) :
    v.spsId = i ∧ i ≤ 31 ∧ v.log2MaxFrameNumMinus4 + 4 ≤ 16 ∧ v.picWidthInMbsMinus1 + 1 < 2^32 ∧
    v.picHeightInMapUnitsMinus1 + 1 < 2^32 := History.reachable_sps_widths ops i v h

/-! ### size ledger: nothing the parsers build or keep is larger than a fixed multiple of the input -/

/-- `decode_nal` never returns more bytes than the payload it was given -/
theorem decoded_rbsp_not_longer_than_payload (nal : List UInt8) (b : Bool) (out : List UInt8)
    (h : Rbsp.decodeNal nal = .ok (b, out)) : out.length ≤ nal.length - 1 := Alloc.decodeNal_length_le nal b out h
/-- un-escaping from any scanner state never produces more than it consumed (streaming reader) -/
theorem unescaped_not_longer (st : Rbsp.PS) (xs : List UInt8) : (Rbsp.unescFrom st xs).1.length ≤ xs.length :=
  Alloc.unescFrom_length_le st xs
/-- the SEI scratch buffer is resized to `payload_len` before the payload is known to be present: that request is at
most 255 bytes per input byte -/
theorem sei_scratch_request_bounded (name : String) (fin : IoKind) (bs : List UInt8) (len : Nat) (rest : List UInt8)
    (h : Sei.readU32 name fin bs 0 = .ok (len, rest)) : len ≤ 255 * bs.length := Alloc.scratch_request_le name fin bs len rest h
/-- a delivered message and what is left to read fit into what was there -/
theorem sei_message_within_input (r r' : Sei.Reader) (ty : Nat) (pl : List UInt8)
    (h : Sei.next r = (r', .ok (some (ty, pl)))) : pl.length + r'.src.bytes.length + 2 ≤ r.src.bytes.length :=
  Alloc.next_payload_le r r' ty pl h
/-- the NAL accumulator's buffer never holds more than the bytes delivered to it, whatever the handler answers -/
theorem accumulator_buffer_bounded (a : Accum.Acc) (steps : List Accum.Step) (tr : List Accum.Invocation) :
    (Accum.run a steps tr).1.buf.length ≤ a.buf.length + (steps.map fun s => s.bufs.flatten.length).sum :=
  Alloc.acc_buffer_le_input a steps tr
/-- parameter-set tables: never more than `B` slots after any insertions under checked ids (`B` = 32 / 256) -/
theorem param_set_table_bounded {α} (B : Nat) (ws : List (Nat × α)) (m : Ctx.PMap α) (hm : m.length ≤ B)
    (h : ∀ w ∈ ws, w.1 < B) : (ws.foldl (fun m w => Ctx.put m w.1 w.2) m).length ≤ B := Alloc.table_length_le B ws m hm h
/-- SPS: all lists bounded by the constants that are requested as capacities -/
theorem sps_lists_bounded (s s' : Src) (v : Sps.Sps) (h : Sps.parseSps s = .ok (v, s')) :
    (∀ f a b offs, v.picOrderCnt = .typeOne f a b offs → offs.length ≤ 255) ∧
    (∀ u hrd, v.vui = some u → (u.nalHrd = some hrd ∨ u.vclHrd = some hrd) → hrd.cpbSpecs.length ≤ 32) ∧
    (∀ m, v.chromaInfo.scalingMatrix = some m → m.l4x4.length = 6 ∧ m.l8x8.length ≤ 6) := Alloc.sps_cells_const s s' v h
/-- PPS: run lengths ≤ 8, rectangles ≤ 7, explicit slice-group ids at most one per input bit -/
theorem pps_lists_bounded (spsById : Nat → Option Sps.Sps) (s s' : Src) (v : Pps.Pps)
    (h : Pps.parsePps spsById s = .ok (v, s')) :
    Alloc.sliceGroupCells v.sliceGroups ≤ s.bits.length + 8 ∧
    (∀ rl, v.sliceGroups = some (.interleaved rl) → rl.length ≤ 8) ∧
    (∀ rs, v.sliceGroups = some (.foregroundAndLeftover rs) → rs.length ≤ 7) ∧
    (∀ n ids, v.sliceGroups = some (.explicitAssignment n ids) → ids.length ≤ s.bits.length) :=
  Alloc.pps_cells_le spsById s s' v h
/-- slice header, in every reachable context: list-modification operations + MMCOs ≤ header bits consumed -/
theorem slice_lists_bounded (ops : List History.Op) (hdr : Slice.NalHdr) (s s' : Src) (h : Slice.SliceHeader)
    (sid pid : Nat)
    (hok : Slice.parseSliceHeader (History.sctx (History.run ops)) hdr s = .ok ((h, sid, pid), s')) :
    Alloc.modCells h.refPicListModification + Alloc.markCells h.decRefPicMarking + s'.bits.length ≤ s.bits.length :=
  Alloc.slice_cells_le_reachable ops hdr s s' h sid pid hok
/-- not vacuous: an explicit map with 3 ids in 2 groups costs 3 bits -/
example : Alloc.sliceGroupCells (some (.explicitAssignment 1 [0, 1, 0])) = 3 := by decide

end C03
