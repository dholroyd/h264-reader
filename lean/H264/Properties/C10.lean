import H264.Sei
import H264.NalSrcProofs
import H264.Tables2C10
import H264.TblProofC10
import H264.SmallProofC10
/-! # C10 — SEI reader yields exactly the encoded (type, payload) messages, then stays ended

Model: `Sei.next` mirrors `SeiReader::next` over the bytes the RBSP byte reader delivers (`NalSrc.drain`: bytes
before the first error/end, and the kind of that end), with the fields `payloads_seen` and `done`.
Encoder: `Sei.encSei` = sei_message framing of 7.3.2.3.1 (type and size as 0xFF-extension bytes) + `0x80`. -/
namespace C10
open Sei Bits

/-- the reader returns exactly the encoded messages, in order, then reports the end — for every message list with
types and sizes below 2³² (including types 128, 255, 510, … and empty payloads), at least one message -/
theorem round_trip (ms : List Msg) (wf : ∀ m ∈ ms, m.WF) (hne : ms ≠ []) :
    readAll (ms.length + 1) ⟨⟨encSei ms, .eof⟩, 0, false⟩ [] = (ms, .ok ()) := by
  have := C10_roundtrip ms wf 0 (Or.inr hne) []
  simpa [encSei] using this

/-- the same through emulation-prevention removal and any chunking of the complete NAL `header :: escape(rbsp)` -/
theorem round_trip_through_nal (ms : List Msg) (wf : ∀ m ∈ ms, m.WF) (hne : ms ≠ [])
    (hdr : UInt8) (chunks : List (List UInt8)) (hc : ∀ c ∈ chunks, c ≠ [])
    (hflat : chunks.flatten = hdr :: Rbsp.escape (encSei ms)) :
    let d := NalSrc.drain (NalSrc.rbspBytes chunks true)
    readAll (ms.length + 1) ⟨⟨d.1, NalSrc.kindOf d.2⟩, 0, false⟩ [] = (ms, .ok ()) := by
  intro d
  have hv : Rbsp.unesc (chunks.flatten.drop 1) = (encSei ms, true) := by
    rw [hflat]; simp [Rbsp.unesc_escape]
  have hd : d = (encSei ms, .eof) := by
    show NalSrc.drain (NalSrc.rbspBytes chunks true) = _
    rw [NalSrc.drain_rbspBytes chunks true hc (by rw [hv]), hv]; rfl
  rw [hd]
  exact round_trip ms wf hne

/-- a message of type 128 is distinguished from the trailing-bits byte by position: one message is returned exactly
wherever it stands -/
theorem message_anywhere (m : Msg) (wf : m.WF) (tl : List UInt8) (seen : Nat) :
    next ⟨⟨encMsg m ++ tl, .eof⟩, seen, false⟩ = (⟨⟨tl, .eof⟩, seen + 1, false⟩, .ok (some m)) := next_msg m wf tl seen

theorem trailing_byte_ends (seen : Nat) (h : seen > 0) :
    next ⟨⟨[0x80], .eof⟩, seen, false⟩ = (⟨⟨[0x80], .eof⟩, seen, true⟩, .ok none) := next_end seen h

/-- fused: after the end every further call reports the end … -/
theorem stays_ended (r : Reader) (h : r.done = true) : next r = (r, .ok none) := next_done r h

/-- … and every call that does not return a message (end or error) leaves the reader in that ended state -/
theorem failure_ends (r : Reader) (hd : r.done = false) :
    (∃ m, (next r).2 = .ok (some m) ∧ (next r).1.done = false) ∨ (next r).1.done = true :=
  next_sets_done_on_failure r hd

/-- a type or size never comes back wrapped: it is below 2³² or the read is an error -/
theorem no_wrapped_u32 (name fin) (bs : List UInt8) :
    match readU32 name fin bs 0 with
    | .ok (v, _) => v < 4294967296
    | .error _ => True := readU32_overflow name fin bs 0 (by omega)

/-- explicitly: a type or size whose 0xFF-extension coding sums to 2³² or more is rejected, whatever follows -/
theorem type_or_size_too_large (name : String) (fin : IoKind) (n : Nat) (hn : n ≥ 4294967296) (rest : List UInt8) :
    readU32 name fin (encU32 n ++ rest) 0 = .error (.io name .invalidData) := readU32_too_large name fin n hn rest

/-- a payload running past the data is an error (of the kind the source reports), and the reader is then ended -/
theorem truncated_payload (ty len : Nat) (hty : ty < 4294967296) (hlen : len < 4294967296)
    (pl : List UInt8) (hshort : pl.length < len) (seen : Nat) (fin : IoKind) :
    next ⟨⟨encU32 ty ++ encU32 len ++ pl, fin⟩, seen, false⟩ =
      (⟨⟨encU32 ty ++ encU32 len ++ pl, fin⟩, seen, true⟩, .error (.io "payload" fin)) :=
  next_truncated ty len hty hlen pl hshort seen fin

/-- non-vacuity: type 128 with an empty payload, then a 255-byte payload of type 510 -/
example : Msg.WF (128, []) ∧ Msg.WF (510, List.replicate 255 0) := by
  unfold Msg.WF; simp only [List.length_nil, List.length_replicate]; omega

/-- "with the right type", in the running code (graph extracted through `SeiReader::next` on every run): for
payloadType 0…511 — one-, two- and three-byte codings — the message is delivered and distinct payloadType values are
reported as distinct types -/
theorem code_payload_types_distinct : Generated.seiType.length = 512 ∧
    (∀ i : Fin 512, Generated.seiType.getD i.val 999 < 998) ∧
    (∀ i : Fin 512, ∀ j : Fin 512, Generated.seiType.getD i.val 999 = Generated.seiType.getD j.val 999 → i = j) :=
  Tables2.seiType_injective

/-- model `Sei.next` = real `SeiReader::next` on the 512 swept one-message SEI RBSPs (type recovered, payload intact), by proof -/
theorem model_reader_reproduces_code_on_payload_type_sweep :
    ∀ i : Fin 512, TblProof.seiTypeCode i.val = some (Generated.seiType.getD i.val 999) := TblProof.seiType_model_eq_code

/-- **model = real code on a complete small domain, by proof**: every RBSP of length 0…5 over {00, 01, 80, ff} (1 365 inputs: every
short coding of type and size incl. the ff extension, the trailing-bits byte in first and later position, truncations) read
until the reader has reported the end or an error three times: the model reader (with its scratch vector) returns what the
real `SeiReader::next` returned in this run's graph — each message, the end, each error class, and silence afterwards -/
theorem model_reader_reproduces_code_on_small_rbsps :
    (SmallProof.words4 [0x00, 0x01, 0x80, 0xff]).map SmallProof.seiRow = Generated.seiRows := SmallProof.sei_model_eq_code

end C10
