import H264.AnnexBSpec
import H264.AnnexBOps
import H264.ByteProofC01
/-! # C01 — Annex B NAL framing is invariant under push chunking and matches start codes

Model: `AnnexB.push` / `AnnexB.reset` mirror `AnnexBReader::push` / `reset` at call level (index loop,
`fake_and_start`, `maybe_emit`); `events` projects the calls to delivered bytes and end markers.
Spec: `AnnexB.outside` — the declarative Annex B segmentation over 3-byte windows (a unit starts after each
`00 00 01`, ends before the next `00 00 00` / `00 00 01` or at the end of the stream; bytes outside units dropped).
All statements are for every byte stream and every partition (any count, any sizes, empty pieces included). -/
namespace C01
open AnnexB

/-- after the final reset the delivered bytes / end markers are the Annex B segmentation of the whole stream -/
theorem reset_is_segmentation (chunks : List (List UInt8)) :
    events ((pushAll St.start chunks).2 ++ (reset (pushAll St.start chunks).1).2) = outside chunks.flatten :=
  C01_reset chunks

/-- chunking invariance with the final reset -/
theorem chunking_invariant (cs₁ cs₂ : List (List UInt8)) (h : cs₁.flatten = cs₂.flatten) :
    events ((pushAll St.start cs₁).2 ++ (reset (pushAll St.start cs₁).1).2) =
    events ((pushAll St.start cs₂).2 ++ (reset (pushAll St.start cs₂).1).2) :=
  C01_chunking cs₁ cs₂ h

/-- chunking invariance of every prefix without reset: same deliveries, same reader state -/
theorem prefix_invariant (cs₁ cs₂ : List (List UInt8)) (h : cs₁.flatten = cs₂.flatten) :
    events (pushAll St.start cs₁).2 = events (pushAll St.start cs₂).2 ∧
    (pushAll St.start cs₁).1 = (pushAll St.start cs₂).1 :=
  C01_prefix cs₁ cs₂ h

/-- the call-level `push` (index loop) emits exactly the events of the byte-level machine, from every state -/
theorem push_is_machine (s : St) (buf : List UInt8) :
    (push s buf).1 = (run s buf).1 ∧ events (push s buf).2 = (run s buf).2 :=
  push_refines_run s buf

/-- the byte-level machine followed by reset computes the declarative segmentation, from every state -/
theorem machine_is_spec (s : St) (xs : List UInt8) : (run s xs).2 ++ resetEv (run s xs).1 = spec s xs :=
  run_spec s xs

/-- any interleaving of pushes and resets: every reset-delimited portion is segmented on its own, and the open
tail (no reset yet) has delivered exactly what the byte machine emits for it — in particular the deliveries of a
prefix do not depend on how it was cut -/
theorem ops_is_segmentation (ops : List Op) : events (runOps St.start ops).2 = specOps [] ops :=
  runOps_start ops

/-- non-vacuity: a stream with a 4-byte start code, an escaped-looking payload, a second unit and a trailing zero -/
example : outside [0,0,0,1,0x67,0,0,3,0,0,1,0x68,0] =
    [.byte 0x67, .byte 0, .byte 0, .byte 3, .endUnit, .byte 0x68, .byte 0, .endUnit] := by
  simp [outside, inside]

/-- **call-level model = real code on a complete small domain, by proof**: every string of length 0…5 over {00, 01, 03, a5}
pushed in two pieces cut at every position, then reset (7 737 runs): the model's `push` / `reset` deliver exactly the bytes
and end markers the real `AnnexBReader` delivered in this run's graph -/
theorem model_reader_reproduces_code :
    (ByteProof.words [0x00, 0x01, 0x03, 0xa5]).map ByteProof.annexbRow = Generated.annexbRows := ByteProof.annexb_model_eq_code

end C01
