import H264.SpsConverse
import H264.PpsConverse
import H264.SliceRanges
import H264.SpsRangesAll
import H264.History
import H264.SmallProofC16
import H264.SmallProofC16Slice
/-! # C16 — Accepted parameter sets and slice headers satisfy documented range invariants

Every statement has the form "the parser returned success on *some* input ⇒ the result is within the bounds", for
arbitrary input bits and an arbitrary context. The context in the PPS / slice statements is an arbitrary lookup
function, so they hold in particular for every context built from previously accepted parameter sets. -/
namespace C16
open Bits

/-- the bounds of an accepted SPS that later stages rely on, written out -/
def SpsRanges (v : Sps.Sps) : Prop :=
  v.spsId < 32 ∧ v.log2MaxFrameNumMinus4 + 4 ≤ 16 ∧
  (∀ n, v.picOrderCnt = .typeZero n → n + 4 ≤ 16) ∧
  (∀ a b c offs, v.picOrderCnt = .typeOne a b c offs → offs.length ≤ 255) ∧
  (∀ u, v.vui = some u →
    (∀ h, (u.nalHrd = some h ∨ u.vclHrd = some h) → 1 ≤ h.cpbSpecs.length ∧ h.cpbSpecs.length ≤ 32) ∧
    (∀ b, u.bitstreamRestrictions = some b →
      b.maxBytesPerPicDenom ≤ 16 ∧ b.maxBitsPerMbDenom ≤ 16 ∧ b.log2MaxMvLengthHorizontal ≤ 16 ∧
      b.log2MaxMvLengthVertical ≤ 16 ∧ b.maxNumReorderFrames ≤ b.maxDecFrameBuffering ∧
      v.maxNumRefFrames ≤ b.maxDecFrameBuffering))

/-- the written-out bounds for **every** accepted SPS, whatever its profile_idc (no AVC-profile hypothesis): ids, log2 sizes,
POC cycle length, CPB counts, bitstream-restriction limits and their consistency with max_num_ref_frames, bit depths at
most 14, and scaling-list counts matching the chroma format (6 4x4 lists and 2 or — for 4:4:4 — 6 8x8 lists) -/
theorem sps_accepted_in_range_every_profile (s s' : Src) (v : Sps.Sps) (h : Sps.parseSps s = .ok (v, s')) :
    SpsRanges v ∧ v.chromaInfo.bitDepthLumaMinus8 + 8 ≤ 14 ∧ v.chromaInfo.bitDepthChromaMinus8 + 8 ≤ 14 ∧
    (∀ m, v.chromaInfo.scalingMatrix = some m →
      m.l4x4.length = 6 ∧ m.l8x8.length = if v.chromaInfo.chromaFormat = .yuv444 then 6 else 2) := by
  obtain ⟨core, b1, b2, b3, _⟩ := Sps.parseSps_ranges_all s s' v h
  have ⟨_, _, _, w4, w6, w7, _, _, _, _, w12⟩ := core
  refine ⟨⟨by omega, by omega, ?_, fun _ _ _ _ hn => core.offs_le hn,
    fun u hu => ⟨fun _ hh => core.cpb_le hu hh, ?_⟩⟩, by omega, by omega, b3⟩
  · intro n hn; rw [hn] at w7; have : n ≤ 12 := w7; omega
  · intro b hb
    rw [hu] at w12
    obtain ⟨_, _, _, _, _, _, _, wb⟩ := w12
    rw [hb] at wb
    obtain ⟨h1, h2, h3, h4, h5, h6, -⟩ := wb
    exact ⟨h1, h2, h3, h4, h5, h6⟩

/-- every accepted SPS (AVC profile classes, see C04) satisfies `Sps.WF` — ids, log2 sizes, bit depths, POC cycle
length, CPB counts, bitstream-restriction limits, scaling-list shape — and hence the written-out bounds -/
theorem sps_accepted_in_range (s s' : Src) (v : Sps.Sps) (h : Sps.parseSps s = .ok (v, s'))
    (hmvc : Sps.mvcOnlyProfile v.profileIdc = false) : (∃ sm, v.WF sm) ∧ SpsRanges v :=
  have ⟨sm, _, wf, _, _⟩ := Sps.C04_converse s s' v h hmvc
  ⟨⟨sm, wf⟩, (sps_accepted_in_range_every_profile s s' v h).1⟩

/-- bit depths at most 14 (minus8 ≤ 6) for profiles that carry them -/
theorem sps_bit_depths (s s' : Src) (v : Sps.Sps) (h : Sps.parseSps s = .ok (v, s'))
    (hmvc : Sps.mvcOnlyProfile v.profileIdc = false) :
    v.chromaInfo.bitDepthLumaMinus8 + 8 ≤ 14 ∧ v.chromaInfo.bitDepthChromaMinus8 + 8 ≤ 14 :=
  have r := sps_accepted_in_range_every_profile s s' v h
  ⟨r.2.1, r.2.2.1⟩

/-- every accepted PPS refers to an SPS that is in the context, with reference counts at most 32 (minus1 ≤ 31), at most
8 slice groups, and QP / QS / chroma offsets in range (`Pps.WF` relative to that SPS) -/
theorem pps_accepted_in_range (spsById : Nat → Option Sps.Sps) (s s' : Src) (v : Pps.Pps)
    (h : Pps.parsePps spsById s = .ok (v, s')) :
    ∃ sp sm, spsById v.spsId = some sp ∧ v.WF sp sm ∧
      v.numRefIdxL0DefaultActiveMinus1 + 1 ≤ 32 ∧ v.numRefIdxL1DefaultActiveMinus1 + 1 ≤ 32 ∧
      -26 ≤ v.picInitQsMinus26 ∧ v.picInitQsMinus26 ≤ 25 ∧ -12 ≤ v.chromaQpIndexOffset ∧ v.chromaQpIndexOffset ≤ 12 := by
  obtain ⟨sp, sm, z, hsp, wf, _, _⟩ := Pps.C05_converse spsById s s' v h
  refine ⟨sp, sm, hsp, wf, ?_⟩
  obtain ⟨_, _, _, w4, w5, _, _, _, w9, w10, w11, w12, _⟩ := wf
  exact ⟨by omega, by omega, w9, w10, w11, w12⟩

/-- every accepted slice header: the returned parameter sets are the context entries named by the returned ids,
frame_num and the POC lsb are below the declared moduli, reference counts at most 32, SliceQS in 0…51, slice type 0…9 -/
theorem slice_accepted_in_range (ctx : Slice.Ctx) (hdr : Slice.NalHdr) (s s' : Src) (h : Slice.SliceHeader) (sid pid : Nat)
    (hok : Slice.parseSliceHeader ctx hdr s = .ok ((h, sid, pid), s')) :
    ∃ pps sps, ctx.pps pid = some pps ∧ pps.spsId = sid ∧ ctx.sps sid = some sps ∧
      h.frameNum < 2 ^ (sps.log2MaxFrameNumMinus4 + 4) ∧ Slice.PocLt sps h.picOrderCntLsb ∧
      Slice.NraLe h.numRefIdxActive ∧ (∀ q, h.sliceQs = some q → q ≤ 51) ∧ h.sliceTypeId ≤ 9 :=
  Slice.C16_slice ctx hdr s s' h sid pid hok

/-! ### the quantifier "under all contexts of previously accepted parameter sets", made explicit as an induction over
the history of feeds (`H264/History.lean`) -/

/-- after **any** sequence of SPS / PPS NAL payloads fed to the parsers (accepted ones stored, rejected ones dropped),
every SPS in the context sits under its own id and is within the SPS bounds, and every PPS sits under its own id and
was accepted against an in-range SPS with the id it names -/
theorem reachable_context_in_range (ops : List History.Op) : History.Inv (History.run ops) := History.reachable_inv ops

/-- a slice header accepted in any reachable context returns exactly the context entries named by its ids, and they
satisfy the stored-value bounds -/
theorem reachable_slice_params (ops : List History.Op) (hdr : Slice.NalHdr) (s s' : Src) (h : Slice.SliceHeader)
    (sid pid : Nat) (hok : Slice.parseSliceHeader (History.sctx (History.run ops)) hdr s = .ok ((h, sid, pid), s')) :
    ∃ pps sps, Ctx.get (History.run ops).pps pid = some pps ∧ pps.ppsId = pid ∧ pps.spsId = sid ∧
      Ctx.get (History.run ops).sps sid = some sps ∧ sps.spsId = sid ∧ History.SpsGood sps ∧ History.PpsGood pps :=
  History.reachable_slice_params ops hdr s s' h sid pid hok

/-- **model = real code across every range check of a minimal SPS / PPS, by proof**: one coded field at a time swept over 0…40
(SPS: id, log2_max_frame_num_minus4, pic_order_cnt_type, max_num_ref_frames, width, height, both bit depths) resp. over the
values around its bounds (PPS: pps_id up to 276, sps_id, both default reference counts, pic_init_qp / pic_init_qs −41…40,
chroma_qp_index_offset), everything else valid: the model parser accepts exactly what the real parser accepted in this run's
graph and returns the same field value — so the bounds proved for the model (`SpsRanges`, `pps_accepted_in_range`) are, on
these 902 inputs, bounds of the running code -/
theorem model_bounds_reproduce_code_sps : (List.range 328).map SmallProof.spsFieldRow = Generated.spsFieldRows :=
  SmallProof.spsFields_model_eq_code
theorem model_bounds_reproduce_code_pps : (List.range 574).map SmallProof.ppsFieldRow = Generated.ppsFieldRows :=
  SmallProof.ppsFields_model_eq_code

/-- **model = real code across every range check of a slice header, by proof**: ten coded fields of an SP slice header (against a
PPS with CABAC, redundant_pic_cnt and deblocking control switched on), one at a time swept across its bounds, everything else
valid (820 inputs): the model parser accepts exactly what the real parser accepted in this run's graph and returns the same field -/
theorem model_slice_bounds_reproduce_code : (List.range 820).map SmallProof.sliceFieldRow = Generated.sliceFieldRows :=
  SmallProof.sliceFields_model_eq_code

end C16
