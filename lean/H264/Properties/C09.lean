import H264.Avcc
import H264.AvccCtx
import H264.AvccBuild
import H264.AvccCtxProofs
import H264.SmallProofC09
/-! # C09 — A validated AVC configuration record yields exactly its parameter sets, never panics

Model: `Avcc.tryFrom` mirrors `TryFrom<&[u8]>` (all `ck` calls and the walk over the length-prefixed entries);
`Avcc.iter` mirrors `ParamSetIter::next`; every slice index of the Rust is a bounds-checked `idx` whose failure is
the explicit outcome `Res.panic`, so "cannot panic" is a theorem about the model and not an assumption of it. -/
namespace C09
open Avcc

/-- **builder round trip**: every record built per ISO/IEC 14496-15 from 0…31 SPS and 0…255 PPS NALs of lengths
0…65535, arbitrary reserved bits (`b4`, `b5`) and arbitrary trailing extension bytes is accepted … -/
theorem built_record_accepted (b1 b2 b3 b4 b5 : UInt8) (sps pps : List (List UInt8)) (ext : List UInt8)
    (ok : BuildOk b5 sps pps) : tryFrom (buildAvcc b1 b2 b3 b4 b5 sps pps ext) = .ok () :=
  (tryFrom_ok_iff _).mpr ⟨_, _, _, _, build_Accepted b1 b2 b3 b4 ext ok⟩

/-- … the fixed-field accessors return the stored values … -/
theorem built_record_fields (b1 b2 b3 b4 b5 : UInt8) (sps pps : List (List UInt8)) (ext : List UInt8)
    (ok : BuildOk b5 sps pps) :
    fields (buildAvcc b1 b2 b3 b4 b5 sps pps ext) = .ok ⟨1, sps.length, b1.toNat, b2.toNat, b3.toNat, b4.toNat % 4⟩ := by
  simp [fields, buildAvcc, idx, bind, Res.bind, pure, ok.nsps]

/-- … the two iterators yield exactly the stored NAL byte strings, in order … -/
theorem built_record_iterators (b1 b2 b3 b4 b5 : UInt8) (sps pps : List (List UInt8)) (ext : List UInt8)
    (ok : BuildOk b5 sps pps) (hs : ∀ n ∈ sps, NalOfType 7 n) (hp : ∀ n ∈ pps, NalOfType 8 n) :
    spsList (buildAvcc b1 b2 b3 b4 b5 sps pps ext) = .ok sps ∧ ppsList (buildAvcc b1 b2 b3 b4 b5 sps pps ext) = .ok pps := by
  have a := build_Accepted b1 b2 b3 b4 ext ok
  simp only [spsList, ppsList, bind, Res.bind, a.nSps, a.spsEnd, a.nPps]
  exact ⟨iter_enc 7 sps (build_at_sps ..) hs, iter_enc 8 pps (build_at_pps ..) hp⟩

/-- … and the created context equals the one obtained by parsing each NAL directly (SPS first, PPS against them) -/
theorem built_record_context (b1 b2 b3 b4 b5 : UInt8) (sps pps : List (List UInt8)) (ext : List UInt8)
    (ok : BuildOk b5 sps pps) (hs : ∀ n ∈ sps, NalOfType 7 n) (hp : ∀ n ∈ pps, NalOfType 8 n) :
    createContext (buildAvcc b1 b2 b3 b4 b5 sps pps ext) =
      (match foldSps sps [] with
       | .error e => .error e
       | .ok sm => match foldPps sm pps [] with
         | .error e => .error e
         | .ok pm => .ok ⟨sm, pm⟩) := by
  have a := build_Accepted b1 b2 b3 b4 ext ok
  simp only [createContext, a.nSps, a.spsEnd, a.nPps, liftErr, ctxSps_enc sps [] (build_at_sps ..) hs]
  cases foldSps sps [] with
  | error e => rfl
  | ok sm => simp only [ctxPps_enc sm pps [] (build_at_pps ..) hp]; cases foldPps sm pps [] <;> rfl

/-- **truncation**: every proper prefix of a record that ends with its last declared parameter set (any cut inside the
declared parameter sets, their length fields, the counts or the fixed fields) is refused at construction -/
theorem truncation_refused (b1 b2 b3 b4 b5 : UInt8) (sps pps : List (List UInt8)) (ok : BuildOk b5 sps pps)
    (k : Nat) (hk : k < (buildAvcc b1 b2 b3 b4 b5 sps pps []).length) :
    tryFrom ((buildAvcc b1 b2 b3 b4 b5 sps pps []).take k) ≠ .ok () := by
  refine (build_Accepted b1 b2 b3 b4 [] ok).truncated_refused ?_
  simp [buildAvcc] at hk; omega

/-- once construction has succeeded on **any** bytes whatsoever, context creation cannot panic -/
theorem context_creation_never_panics (d : List UInt8) (h : tryFrom d = .ok ()) :
    ∀ err, createContext d = .error err → err.isPanic = false := by
  intro err he
  obtain ⟨n, len, np, e, a⟩ := (tryFrom_ok_iff d).mp h
  simp only [createContext, a.nSps, a.spsEnd, a.nPps, liftErr] at he
  split at he
  · cases he; exact ctxSps_noPanic d n 6 len [] a.walkedSps _ ‹_›
  · split at he
    · cases he; exact ctxPps_noPanic d _ np (len + 1) e [] a.walkedPps _ ‹_›
    · cases he

/-- once construction has succeeded on **any** bytes whatsoever, neither iterator can index out of bounds, however
many items are pulled and whatever the entries contain (zero-length entries, wrong NAL types, forbidden bit) -/
theorem iterators_never_panic (d : List UInt8) (h : tryFrom d = .ok ()) :
    (spsList d).isPanic = false ∧ (ppsList d).isPanic = false := validated_noPanic d h

/-- the same from any validated region, for any number of requested items -/
theorem iterator_steps_never_panic (d : List UInt8) (wantType : Nat) (n pos e : Nat) (h : Walked d n pos e) :
    ∀ k, k ≤ n → (iter d wantType k pos).isPanic = false := iter_noPanic d wantType n pos e h

/-- … and the fixed-field accessors are defined (the record has at least its six fixed bytes) -/
theorem accessors_never_panic (d : List UInt8) (h : tryFrom d = .ok ()) : ∃ f, fields d = .ok f := by
  obtain ⟨_, _, _, _, a⟩ := (tryFrom_ok_iff d).mp h
  have h6 := a.six
  obtain ⟨b0, h0⟩ := idx_ok d 0 (by omega)
  obtain ⟨b1, h1⟩ := idx_ok d 1 (by omega)
  obtain ⟨b2, h2⟩ := idx_ok d 2 (by omega)
  obtain ⟨b3, h3⟩ := idx_ok d 3 (by omega)
  obtain ⟨b4, h4⟩ := idx_ok d 4 (by omega)
  obtain ⟨b5, h5⟩ := idx_ok d 5 (by omega)
  exact ⟨_, by simp [fields, bind, Res.bind, h0, h1, h2, h3, h4, h5]; rfl⟩

/-- fewer than the six fixed bytes: refused, reporting what was needed -/
theorem too_short_refused (d : List UInt8) (h : d.length < 6) : tryFrom d = .notEnoughData 6 d.length := by
  simp [tryFrom, ck, h, bind, Res.bind]

/-- any version other than 1 is refused at construction -/
theorem wrong_version_refused (d : List UInt8) (h : 6 ≤ d.length) (v : UInt8) (hv : d[0]? = some v) (hne : v.toNat ≠ 1) :
    tryFrom d = .unsupportedVersion v.toNat := by
  have hck : ck d 6 = .ok () := (ck_ok_iff _ _).mpr h
  simp [tryFrom, bind, Res.bind, hck, idx, hv, hne]

/-- whatever construction accepts has passed the walk over every declared entry (what later code relies on) -/
theorem accepted_is_walked (d : List UInt8) (h : tryFrom d = .ok ()) :
    ∃ n e, numSps d = .ok n ∧ Walked d n 6 e ∧ e + 1 ≤ d.length := by
  obtain ⟨n, len, _, _, a⟩ := (tryFrom_ok_iff d).mp h
  exact ⟨n, len, a.nSps, a.walkedSps, a.more⟩

/-- non-vacuity: the record of the suite's `it_works` test header with no parameter sets is accepted -/
example : tryFrom [0x01, 0x42, 0xc0, 0x1e, 0xff, 0xe0, 0x00] = .ok () := by
  simp [tryFrom, ck, idx, spsEnd, numSps, walk, bind, Res.bind, pure]

/-- non-vacuity: two SPS-typed and one PPS-typed NAL, reserved bits set -/
example : BuildOk 0xE2 [[0x67, 1, 2], [0x27]] [[0x68, 3]] ∧ NalOfType 7 [0x67, 1, 2] ∧ NalOfType 8 [0x68, 3] := by
  refine ⟨⟨by decide, by decide, by decide, by decide⟩, ⟨0x67, [1, 2], rfl, by decide, by decide, by decide⟩,
    ⟨0x68, [3], rfl, by decide, by decide, by decide⟩⟩

/-- **model = real code on a complete small domain, by proof**: the record `01 42 c0 1e ff e1 0002 6742 01 0002 68ce`, every
single-byte replacement by {00, 01, e2, ff} and every prefix of each (976 records: truncation inside every fixed field, length
field and entry; wrong versions; counts and lengths too large; wrong NAL types and forbidden bits in the entries): the
model's construction verdict, fixed-field accessors and both iterators are those of the real
`AvcDecoderConfigurationRecord` in this run's graph -/
theorem model_record_reproduces_code : SmallProof.avccInputs.map SmallProof.avccRow = Generated.avccRows :=
  SmallProof.avcc_model_eq_code

end C09
