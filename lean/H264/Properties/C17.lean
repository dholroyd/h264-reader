import H264.NalPrefix
import H264.SliceLoops
import H264.SeiMono
import H264.SpsConverse
import H264.PpsConverse
import H264.SpsRangesAll
import H264.SeiScratch
import H264.SmallProofC17
/-! # C17 — Parsing a partially buffered NAL never contradicts parsing the complete NAL

`Mono p`: on every truncated, still-incomplete view (`fin = wouldBlock`, bits a prefix) the parser `p` either fails
with a would-block read error, or returns the value the run on the full source returns (the residual sources again in
prefix relation), or fails where the full run fails too. `MonoRes full partial` is that relation of outcomes.
Purity: the model parsers are functions of (context, source), so repeated invocation and scratch reuse cannot matter
in the model; the correspondence run repeats calls with dirty scratch storage on the implementation. -/
namespace C17
open Bits

/-- byte level: a proper prefix of a NAL free of forbidden sequences, presented as an incomplete NAL in **any**
chunking, is seen by the parsers as a truncated would-block view of what the complete contiguous NAL shows -/
theorem prefix_is_truncated_view (nal : List UInt8) (hv : (Rbsp.unesc (nal.drop 1)).2 = true)
    (chunks' : List (List UInt8)) (hc : ∀ c ∈ chunks', c ≠ []) (t : List UInt8) (hflat : chunks'.flatten ++ t = nal)
    (hne : chunks' ≠ []) :
    (NalSrc.srcOfNal chunks' false).IsPrefixOf (NalSrc.srcOfNal [nal] true) :=
  NalSrc.prefix_view nal hv chunks' hc t hflat hne

/-- the parsers are prefix-monotone -/
theorem sps_monotone : Mono Sps.parseSps := Sps.mono_parseSps
theorem pps_monotone (spsById) : Mono (Pps.parsePps spsById) := Pps.mono_parsePps spsById
theorem slice_header_monotone (ctx hdr) : Mono (Slice.parseSliceHeader ctx hdr) := Slice.mono_parseSliceHeader ctx hdr
theorem more_data_monotone (name) : Mono (hasMore name) := mono_hasMore name
theorem finish_monotone : Mono finishRbsp := mono_finishRbsp

/-- composition: each parser on the incomplete prefix (any chunking) blocks or agrees with the complete contiguous NAL -/
theorem partial_nal_agrees {α} (p : P α) (hp : Mono p) (nal : List UInt8) (hv : (Rbsp.unesc (nal.drop 1)).2 = true)
    (chunks' : List (List UInt8)) (hc : ∀ c ∈ chunks', c ≠ []) (t : List UInt8) (hflat : chunks'.flatten ++ t = nal)
    (hne : chunks' ≠ []) :
    MonoRes (p (NalSrc.srcOfNal [nal] true)) (p (NalSrc.srcOfNal chunks' false)) :=
  NalSrc.partial_agrees p hp nal hv chunks' hc t hflat hne

/-- SPS and PPS parsing must see the end of the RBSP: they never succeed on an incomplete NAL -/
theorem sps_never_succeeds_on_partial (s : Src) (h : s.fin ≠ .eof) (v : Sps.Sps) (s' : Src) :
    Sps.parseSps s ≠ .ok (v, s') := by
  intro hok
  exact h (Sps.parseSps_ranges_all s s' v hok).2.2.2.2

theorem pps_never_succeeds_on_partial (spsById) (s : Src) (h : s.fin ≠ .eof) (v : Pps.Pps) (s' : Src) :
    Pps.parsePps spsById s ≠ .ok (v, s') := by
  intro hok
  obtain ⟨_, _, _, _, _, _, he⟩ := Pps.C05_converse spsById s s' v hok
  exact h he

theorem finish_needs_the_end (s : Src) (h : s.fin ≠ .eof) : ∀ r, finishRbsp s ≠ .ok r := finishRbsp_needs_eof s h

/-- SEI reader: on the truncated view each call yields the same message as the complete run (readers stay in step),
never reports the end, and otherwise fails with would-block or exactly like the complete run — so it yields a prefix
of the complete message sequence and then such a failure -/
theorem sei_yields_prefix (r' r : Sei.Reader) (h : Sei.InStep r' r) :
    match (Sei.next r').2 with
    | .ok (some m) => (Sei.next r).2 = .ok (some m) ∧ Sei.InStep (Sei.next r').1 (Sei.next r).1
    | .ok none => False
    | .error e => e.isWouldBlock ∨ (Sei.next r).2 = .error e := Sei.next_prefix r' r h

/-- the RBSP of a prefix of a valid NAL is a prefix of the NAL's RBSP and is itself valid -/
theorem rbsp_of_prefix (p t : List UInt8) (hv : (Rbsp.unescFrom .start (p ++ t)).2 = true) :
    (Rbsp.unescFrom .start p).2 = true ∧ (Rbsp.unescFrom .start p).1 <+: (Rbsp.unescFrom .start (p ++ t)).1 :=
  Rbsp.unescFrom_prefix .start p t hv

/-- "reusing scratch buffers does not change the outcome": the SEI reader with its caller-supplied scratch vector
(`resize(len, 0)`, `read_exact`, the message borrows the vector) returns, for every previous content of that vector, the
result and the next state of the scratch-free model -/
theorem sei_reader_independent_of_scratch (r : Sei.Reader) (s₁ s₂ : List UInt8) :
    (Sei.nextS r s₁).1 = (Sei.nextS r s₂).1 ∧ (Sei.nextS r s₁).2.1 = (Sei.nextS r s₂).2.1 := Sei.scratch_irrelevant r s₁ s₂
theorem sei_reader_with_scratch_is_model (r : Sei.Reader) (scratch : List UInt8) :
    ((Sei.nextS r scratch).1, (Sei.nextS r scratch).2.1) = Sei.next r := Sei.nextS_eq_next r scratch

/-- **model = real code on every prefix, by proof**: an SPS, a PPS, a P-slice and a two-message SEI NAL unit (the bytes are part of
this run's graph), each presented as every proper prefix (an incomplete NAL) and complete: the model parsers over the model byte
reader (`NalSrc.srcOfNal`, the whole model stack evaluated in the kernel) block, accept — with the same id, frame_num or number of
messages delivered — or refuse exactly where the real parsers did -/
theorem model_prefix_outcomes_reproduce_code :
    SmallProof.prefixInputs.map (fun x => SmallProof.prefixRow x.1 x.2) = Generated.prefixRows := SmallProof.prefixes_model_eq_code

end C17
