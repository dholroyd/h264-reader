import H264.Avcc
/-! C09: the ISO/IEC 14496-15 record builder and its round trip through `tryFrom` and the iterators; truncations.
The layout is stated once, as what the record holds from a position on (`d.drop pos = …`); the walkers are then
evaluated on that. -/
namespace Avcc

def encEntry (nal : List UInt8) : List UInt8 :=
  UInt8.ofNat (nal.length / 256) :: UInt8.ofNat (nal.length % 256) :: nal

def encEntries (nals : List (List UInt8)) : List UInt8 := (nals.map encEntry).flatten

theorem encEntries_cons (nal : List UInt8) (rest : List (List UInt8)) :
    encEntries (nal :: rest) = encEntry nal ++ encEntries rest := by simp [encEntries]

theorem idx_append_right (pre rest : List UInt8) (i : Nat) : idx (pre ++ rest) (pre.length + i) = idx rest i := by
  rw [← idx_drop, List.drop_left]

theorem idx_append_left (pre rest : List UInt8) (i : Nat) (h : i < pre.length) : idx (pre ++ rest) i = idx pre i := by
  unfold idx
  rw [List.getElem?_append_left h]

theorem hi_lo (l : Nat) (h : l ≤ 65535) :
    (UInt8.ofNat (l / 256)).toNat * 256 + (UInt8.ofNat (l % 256)).toNat = l := by
  have h1 : (UInt8.ofNat (l / 256)).toNat = l / 256 := by simp [UInt8.toNat_ofNat']; omega
  have h2 : (UInt8.ofNat (l % 256)).toNat = l % 256 := by simp [UInt8.toNat_ofNat']
  rw [h1, h2]; omega

/-! ### what `d` holds from `pos` on -/

theorem idx_at {d s : List UInt8} {pos : Nat} (h : d.drop pos = s) (i : Nat) : idx d (pos + i) = idx s i := by
  rw [← h, idx_drop]

theorem drop_at {d s t : List UInt8} {pos : Nat} (h : d.drop pos = s ++ t) : d.drop (pos + s.length) = t := by
  rw [← List.drop_drop, h, List.drop_left]

theorem length_at {d s : List UInt8} {pos : Nat} (h : d.drop pos = s) (hs : s ≠ []) : pos + s.length = d.length := by
  have := List.length_pos_iff.mpr hs
  rw [← h, List.length_drop] at this ⊢; omega

/-- where `d` holds `encEntry nal` at `pos`, the two length bytes give `nal.length` and the NAL follows them -/
theorem enc_hdr {d nal rest : List UInt8} {pos : Nat} (hd : d.drop pos = encEntry nal ++ rest) (hl : nal.length ≤ 65535) :
    ∃ hi lo, idx d pos = .ok hi ∧ idx d (pos + 1) = .ok lo ∧ hi * 256 + lo = nal.length ∧
      d.drop (pos + 2) = nal ++ rest ∧ pos + 2 + nal.length + rest.length = d.length := by
  -- `hi` and `lo` are found by `idx_at` on the two leading bytes of `encEntry`
  refine ⟨_, _, idx_at hd 0, idx_at hd 1, hi_lo _ hl, drop_at (s := [_, _]) hd, ?_⟩
  have := length_at hd (by simp [encEntry])
  simp [encEntry] at this; omega

/-- walking the encoded entries ends exactly behind them -/
theorem walk_enc {d : List UInt8} {pos : Nat} (nals : List (List UInt8)) {post : List UInt8}
    (hd : d.drop pos = encEntries nals ++ post) (hl : ∀ n ∈ nals, n.length ≤ 65535) :
    walk d nals.length pos = .ok (pos + (encEntries nals).length) := by
  induction nals generalizing pos with
  | nil => rfl
  | cons nal rest ih =>
    rw [encEntries_cons, List.append_assoc] at hd
    obtain ⟨hnal, hrest⟩ := List.forall_mem_cons.mp hl
    obtain ⟨hi, lo, hhi, hlo, hlen, hd2, htot⟩ := enc_hdr hd hnal
    refine walk_succ_ok_iff.mpr ⟨hi, lo, hhi, hlo, by omega, ?_⟩
    rw [hlen, ih (drop_at hd2) hrest, encEntries_cons]
    simp [encEntry]; omega

/-- a NAL the iterator for `wantType` accepts: non-empty, forbidden bit clear, the right `nal_unit_type` -/
def NalOfType (wantType : Nat) (nal : List UInt8) : Prop :=
  ∃ h rest, nal = h :: rest ∧ h.toNat < 128 ∧ h.toNat % 32 = wantType ∧ nal.length ≤ 65535

theorem NalOfType.length_le {w : Nat} {nal : List UInt8} (h : NalOfType w nal) : nal.length ≤ 65535 := by
  obtain ⟨_, _, _, _, _, h⟩ := h; exact h

theorem entry_enc {d nal rest : List UInt8} {pos : Nat} (w : Nat) (hd : d.drop pos = encEntry nal ++ rest)
    (hn : NalOfType w nal) : entry d w pos = .ok (nal, pos + 2 + nal.length) := by
  obtain ⟨h, tl, rfl, h128, hty, hlen⟩ := hn
  obtain ⟨hi, lo, hhi, hlo, hl, hd2, htot⟩ := enc_hdr hd hlen
  have hh : idx d (pos + 2) = .ok h.toNat := idx_at hd2 0
  simp only [entry, bind, Res.bind, hhi, hlo, hl, hh]
  rw [if_neg (by simp), if_neg (by omega), if_neg (by omega), if_neg (by omega), hd2, List.take_left]
  rfl

/-- the iterator yields exactly the encoded NALs, in order -/
theorem iter_enc (wantType : Nat) {d : List UInt8} {pos : Nat} (nals : List (List UInt8)) {post : List UInt8}
    (hd : d.drop pos = encEntries nals ++ post) (hn : ∀ n ∈ nals, NalOfType wantType n) :
    iter d wantType nals.length pos = .ok nals := by
  induction nals generalizing pos with
  | nil => rfl
  | cons nal rest ih =>
    rw [encEntries_cons, List.append_assoc] at hd
    obtain ⟨hnal, hrest⟩ := List.forall_mem_cons.mp hn
    obtain ⟨_, _, _, _, _, hd2, htot⟩ := enc_hdr hd hnal.length_le
    rw [List.length_cons, iter_succ, if_neg (by omega), entry_enc wantType hd hnal]
    simp only [bind, Res.bind, ih (drop_at hd2) hrest]
    rfl

/-- AVCDecoderConfigurationRecord (ISO/IEC 14496-15 5.2.4.1): version 1, three profile/level bytes, a byte whose low
two bits are lengthSizeMinusOne, a byte whose low five bits are the SPS count (`b4`, `b5` carry arbitrary reserved
bits), the length-prefixed SPS NALs, the PPS count, the length-prefixed PPS NALs, then arbitrary extension bytes -/
def buildAvcc (b1 b2 b3 b4 b5 : UInt8) (sps pps : List (List UInt8)) (ext : List UInt8) : List UInt8 :=
  [1, b1, b2, b3, b4, b5] ++ (encEntries sps ++ (UInt8.ofNat pps.length :: (encEntries pps ++ ext)))

structure BuildOk (b5 : UInt8) (sps pps : List (List UInt8)) : Prop where
  nsps : b5.toNat % 32 = sps.length
  npps : pps.length ≤ 255
  lsps : ∀ n ∈ sps, n.length ≤ 65535
  lpps : ∀ n ∈ pps, n.length ≤ 65535

section build
variable (b1 b2 b3 b4 b5 : UInt8) (sps pps : List (List UInt8)) (ext : List UInt8)

theorem build_at_sps : (buildAvcc b1 b2 b3 b4 b5 sps pps ext).drop 6 =
    encEntries sps ++ (UInt8.ofNat pps.length :: (encEntries pps ++ ext)) := rfl

theorem build_at_numPps : (buildAvcc b1 b2 b3 b4 b5 sps pps ext).drop (6 + (encEntries sps).length) =
    UInt8.ofNat pps.length :: (encEntries pps ++ ext) := drop_at (build_at_sps ..)

theorem build_at_pps : (buildAvcc b1 b2 b3 b4 b5 sps pps ext).drop (6 + (encEntries sps).length + 1) =
    encEntries pps ++ ext := drop_at (s := [_]) (build_at_numPps ..)

variable {b5 sps pps} (ok : BuildOk b5 sps pps)
include ok

/-- the round trip in one statement: `try_from` finds the stored counts and ends behind the last PPS -/
theorem build_Accepted : Accepted (buildAvcc b1 b2 b3 b4 b5 sps pps ext) sps.length (6 + (encEntries sps).length)
    pps.length (6 + (encEntries sps).length + 1 + (encEntries pps).length) where
  six := by simp [buildAvcc]
  version := rfl
  nSps := by simp [numSps, buildAvcc, idx, bind, Res.bind, pure, ok.nsps]
  sps := walk_enc sps (build_at_sps ..) ok.lsps
  more := by have := length_at (build_at_numPps b1 b2 b3 b4 b5 sps pps ext) (by simp); simp at this; omega
  nPps := by
    have := ok.npps
    rw [← Nat.add_zero (6 + _), idx_at (build_at_numPps ..) 0]
    simp [idx, UInt8.toNat_ofNat']; omega
  pps := walk_enc pps (build_at_pps ..) ok.lpps

end build
end Avcc
