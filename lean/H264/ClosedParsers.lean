import H264.Closed
import H264.Slice
import H264.SeiPayloads
/-! Every model parser of SPS, PPS, slice header and SEI payloads has every `ClosedProp`.
A sub-reader has a lemma of its own where it is recursive or large (`readVui`); the others are opened in their caller. -/
namespace Sps
open Bits
variable (K : ClosedProp)

@[closed] theorem closed_readCpbSpecs (n) : K.holds (readCpbSpecs n) := by
  induction n with
  | zero => exact K.pure _
  | succ n ih => unfold readCpbSpecs readCpbSpec; closed
@[closed] theorem closed_readHrd : K.holds readHrd := by unfold readHrd; closed
@[closed] theorem closed_readSeList (name n) : K.holds (readSeList name n) := by
  induction n with
  | zero => exact K.pure _
  | succ n ih => unfold readSeList; closed
@[closed] theorem closed_readVui (m) : K.holds (readVui m) := by
  unfold readVui readLowDelayFlag readAspectRatioInfo readOverscan readVideoSignalType readColourDescription
    readChromaLocInfo readTimingInfo readBitstreamRestrictions
  closed
@[closed] theorem closed_fillScalingList (n j last next ud acc) : K.holds (fillScalingList n j last next ud acc) := by
  induction n generalizing j last next ud acc with
  | zero => exact K.pure _
  | succ n ih => unfold fillScalingList; closed
@[closed] theorem closed_readScalingLists (s4 n i a4 a8) : K.holds (readScalingLists s4 n i a4 a8) := by
  induction n generalizing i a4 a8 with
  | zero => exact K.pure _
  | succ n ih => unfold readScalingLists readScalingList; closed
theorem closed_parseSps : K.holds parseSps := by
  unfold parseSps readChromaInfo readBitDepthMinus8 readSeparateColourPlane readOptScalingMatrix readSeqScalingMatrix
    readPicOrderCnt readFrameMbsFlags readFrameCropping
  closed

end Sps

namespace Pps
open Bits
variable (K : ClosedProp)

@[closed] theorem closed_readUeList (name bound tag n) : K.holds (readUeList name bound tag n) := by
  induction n with
  | zero => exact K.pure _
  | succ n ih => unfold readUeList; closed
@[closed] theorem closed_readRects (s n) : K.holds (readRects s n) := by
  induction n with
  | zero => exact K.pure _
  | succ n ih => unfold readRects readRect; closed
@[closed] theorem closed_readBitsList (name w n) : K.holds (readBitsList name w n) := by
  induction n with
  | zero => exact K.pure _
  | succ n ih => unfold readBitsList; closed
theorem closed_parsePps (ctx) : K.holds (parsePps ctx) := by
  unfold parsePps readSliceGroups readSliceGroup Pps.readNumRefIdx readPpsExtra readPicScalingMatrix
  closed

end Pps

namespace Slice
open Bits
variable (K : ClosedProp)

@[closed] theorem closed_readPredWeightEntries (c n) : K.holds (readPredWeightEntries c n) := by
  induction n with
  | zero => exact K.pure _
  | succ n ih => unfold readPredWeightEntries readLumaWeight readChromaWeights; closed
@[closed] theorem closed_readNumRefIdx (name) : K.holds (Slice.readNumRefIdx name) := by
  unfold Slice.readNumRefIdx; closed

theorem closed_readModOps (hfuel : K.holds (fail (.panic "fuel") : P (List ModOp))) (f) : K.holds (readModOps f) := by
  induction f with
  | zero => exact hfuel
  | succ f ih => unfold readModOps; closed
theorem closed_readMmcos (hfuel : K.holds (fail (.panic "fuel") : P (List Mmco))) (f) : K.holds (readMmcos f) := by
  induction f with
  | zero => exact hfuel
  | succ f ih => unfold readMmcos; closed

/-- The two `do … while` loops are called with the remaining bits + 1 as fuel; that these calls have the property is not
structural (it rests on every iteration consuming a bit) and is shown per property in `SliceLoops`. -/
theorem closed_parseSliceHeader (hmod : K.holds fun s => readModOps (s.bits.length + 1) s)
    (hmmco : K.holds fun s => readMmcos (s.bits.length + 1) s) (ctx hdr) : K.holds (parseSliceHeader ctx hdr) := by
  unfold parseSliceHeader readSliceBody readColourPlane readFieldPic readIdrPicId readPoc readRedundant readDirect
    readNumRefIdxActive readRefPicListMods readModList readPwtOpt readPredWeightTable readMarkingOpt
    readDecRefPicMarking readCabac readQpDelta readSwitchQs readSpSwitch readDeblock requireMore
  closed

end Slice

namespace SeiPayload
open Bits
variable (K : ClosedProp)

@[closed] theorem closed_readClockTimestamps (s n) : K.holds (readClockTimestamps s n) := by
  induction n with
  | zero => exact K.pure _
  | succ n ih => unfold readClockTimestamps readOptClockTimestamp readClockTimestamp readSmh readTimeOffset; closed
theorem closed_readPicTiming (hfin : K.holds finishSei) (s) : K.holds (readPicTiming s) := by
  unfold readPicTiming readDelays readPicStruct; closed
@[closed] theorem closed_readCpbRemovalList (len n) : K.holds (readCpbRemovalList len n) := by
  induction n with
  | zero => exact K.pure _
  | succ n ih => unfold readCpbRemovalList readCpbRemoval; closed
theorem closed_readBufferingPeriod (hfin : K.holds finishSei) (ctx) : K.holds (readBufferingPeriod ctx) := by
  unfold readBufferingPeriod readOptHrdBp; closed

end SeiPayload
