import H264.SliceWF
import H264.SpsStd
import H264.CodesSimp
import H264.C14
/-! The slice header element by element: each reader of `Slice.lean` is the exact decoder of the corresponding
encoder of `SliceStd.lean` on the standard's condition for that element (`Codes`, or `Parses` at the many-to-one
spots), the sub-structures first. `parseSliceHeader_iff` (`SliceC06.lean`) puts them together. -/
namespace Slice
open Bits Sps

/-! ### ref_pic_list_modification -/

theorem encModOp_length_pos (o : ModOp) : 1 ≤ (encModOp o).length := by
  cases o <;> exact encUe_append_length_pos _ _

theorem readModOps_nil (f : Nat) (s0 pre) (s' : Src) :
    After (readModOps (f + 1)) s0 pre ([], s') ↔ s0.Consumes s' (pre ++ encUe 3) := by
  -- the alternatives that read an operation yield a non-empty list
  simp only [readModOps, after_readUe_hyp, after_ite_cases_hyp, after_map, after_pure, after_fail,
    reduceCtorEq, false_and, exists_false, and_false, false_or, or_false, true_and]
  constructor
  · rintro ⟨_, -, -, -, -, rfl, c⟩; exact c
  · intro c; exact ⟨3, by omega, by omega, by omega, by omega, rfl, c⟩

theorem readModOps_cons (f : Nat) (s0 pre) (o : ModOp) (ops : List ModOp) (s' : Src) :
    After (readModOps (f + 1)) s0 pre (o :: ops, s') ↔
      o.WF ∧ After (readModOps f) s0 (pre ++ encModOp o) (ops, s') := by
  constructor
  · simp only [readModOps, after_readUe_hyp, after_ite_cases_hyp, after_map, after_pure, after_fail]
    -- the alternatives are the operations 0, 1, 2 and the terminator 3, which yields no `o`
    rintro ⟨idc, -, ⟨rfl, v, uv, _, ⟨⟩, h⟩ | ⟨-, ⟨rfl, v, uv, _, ⟨⟩, h⟩ | ⟨-, ⟨rfl, v, uv, _, ⟨⟩, h⟩ |
      ⟨-, ⟨-, ⟨⟩, -⟩ | ⟨-, ⟨⟩⟩⟩⟩⟩⟩ <;> simp only [encModOp, ← List.append_assoc]
    all_goals exact ⟨uv, h⟩
  · simp only [readModOps, after_readUe_hyp, after_ite, after_map, after_pure, after_fail]
    rintro ⟨w, h⟩
    -- the `if` chain evaluates on the operation's number
    cases o <;> simp only [encModOp, ← List.append_assoc] at h
    · exact ⟨0, by omega, _, w, ops, rfl, h⟩
    · exact ⟨1, by omega, _, w, ops, rfl, h⟩
    · exact ⟨2, by omega, _, w, ops, rfl, h⟩

theorem readModOps_codes (fuel : Nat) : Codes (readModOps fuel) (fun ops => ops.length < fuel ∧ ∀ o ∈ ops, o.WF)
    fun ops => (ops.map encModOp).flatten ++ encUe 3 :=
  Codes.loop rfl readModOps_nil readModOps_cons fuel

theorem readModOps_enc (ops : List ModOp) (wf : ∀ o ∈ ops, o.WF) (fuel : Nat) (hf : ops.length < fuel) (rest fin) :
    readModOps fuel ⟨(ops.map encModOp).flatten ++ (encUe 3 ++ rest), fin⟩ = .ok (ops, ⟨rest, fin⟩) := by
  simpa [List.append_assoc] using (readModOps_codes fuel).enc ⟨hf, wf⟩ rest fin

theorem readModOpsAuto_codes : Codes (fun s => readModOps (s.bits.length + 1) s) (fun ops => ∀ o ∈ ops, o.WF)
    fun ops => (ops.map encModOp).flatten ++ encUe 3 :=
  Codes.fuel readModOps_codes (length_lt_flatten _ encModOp_length_pos 3)

theorem readModList_parses :
    Parses readModList fun ops e => (∀ o ∈ ops, o.WF) ∧ ∃ longForm, e = encModListAlt ops longForm := by
  intro s ops s'
  rw [after_start]; simp only [readModList, parse_iff, readModOpsAuto_codes.after]
  -- flag 0 yields the empty list only; flag 1 yields any list, the empty one too
  by_cases h : ops = [] <;> simp [encModListAlt, h, List.append_assoc, and_assoc]

theorem readModList_exact (s s' : Src) (ops : List ModOp) (h : readModList s = .ok (ops, s')) :
    (∀ o ∈ ops, o.WF) ∧ (∃ lf, s.bits = encModListAlt ops lf ++ s'.bits) ∧ s'.fin = s.fin := by
  obtain ⟨_, ⟨wf, lf, rfl⟩, c⟩ := (readModList_parses s ops s').1 h
  exact ⟨wf, ⟨lf, c.1⟩, c.2⟩

theorem readRefPicListMods_parses (fam : Family) :
    Parses (readRefPicListMods fam) fun m e => ModsWF fam m ∧ ∃ alt, e = encRefPicListModsAlt alt m := by
  intro s m s'
  rw [after_start]
  constructor
  · -- each list read comes with the coding it had
    cases fam <;> simp only [readRefPicListMods, parse_iff, readModList_parses.after_bind, List.nil_append]
    · rintro ⟨a, _, ⟨wa, la, rfl⟩, rfl, c⟩; exact ⟨_, ⟨⟨.inl rfl, wa⟩, ⟨la, false⟩, rfl⟩, c⟩
    · rintro ⟨a, _, ⟨wa, la, rfl⟩, b, _, ⟨wb, lb, rfl⟩, rfl, c⟩; exact ⟨_, ⟨⟨rfl, wa, wb⟩, ⟨la, lb⟩, rfl⟩, c⟩
    · rintro ⟨rfl, c⟩; exact ⟨_, ⟨.inl rfl, ⟨false, false⟩, rfl⟩, c⟩
    · rintro ⟨a, _, ⟨wa, la, rfl⟩, rfl, c⟩; exact ⟨_, ⟨⟨.inr rfl, wa⟩, ⟨la, false⟩, rfl⟩, c⟩
    · rintro ⟨rfl, c⟩; exact ⟨_, ⟨.inr rfl, ⟨false, false⟩, rfl⟩, c⟩
  · rintro ⟨_, ⟨wf, alt, rfl⟩, c⟩
    rcases m with _ | a | ⟨a, b⟩
    · obtain rfl | rfl := wf <;> exact (after_pure ..).2 ⟨rfl, c⟩
    · obtain ⟨rfl | rfl, wa⟩ := wf <;>
        exact (readModList_parses.after_bind ..).2 ⟨a, _, ⟨wa, _, rfl⟩, (after_pure ..).2 ⟨rfl, c⟩⟩
    · obtain ⟨rfl, wa, wb⟩ := wf
      exact (readModList_parses.after_bind ..).2 ⟨a, _, ⟨wa, _, rfl⟩,
        (readModList_parses.after_bind ..).2 ⟨b, _, ⟨wb, _, rfl⟩, (after_pure ..).2 ⟨rfl, c⟩⟩⟩

/-! ### pred_weight_table -/

theorem readLumaWeight_codes : Codes readLumaWeight LumaW.WF encLumaW := by
  intro s lw s'
  rw [after_start]; simp only [readLumaWeight, parse_iff]
  rcases lw with _ | ⟨w, o⟩ <;> simp [LumaW.WF, encLumaW, and_assoc]
  exact iff_of_eq (by ac_rfl)

theorem readChromaWeights_codes : Codes readChromaWeights ChromaW.WF encChromaW := by
  intro s cw s'
  rw [after_start]; simp only [readChromaWeights, parse_iff]
  rcases cw with _ | ⟨⟨w0, o0⟩, _ | ⟨⟨w1, o1⟩, _ | _⟩⟩ <;> simp [ChromaW.WF, encChromaW, and_assoc]
  exact iff_of_eq (by ac_rfl)

/-- the two lists are read side by side; without chroma the second one stays empty -/
theorem readPredWeightEntries_codes (chroma : Bool) (n : Nat) : Codes (readPredWeightEntries chroma n)
    (fun p => p.1.length = n ∧ (∀ l ∈ p.1, LumaW.WF l) ∧
      if chroma then p.2.length = p.1.length ∧ ∀ c ∈ p.2, ChromaW.WF c else p.2 = [])
    fun p => encPredWeightEntries chroma p.1 p.2 := by
  induction n with
  | zero =>
    intro s ⟨ls, cs⟩ s'
    rw [after_start]; simp only [readPredWeightEntries, parse_iff]
    rcases ls with _ | ⟨l, ls⟩ <;> cases chroma <;> simp +contextual [encPredWeightEntries]
  | succ n ih =>
    intro s ⟨ls, cs⟩ s'
    rw [after_start]
    simp only [readPredWeightEntries, parse_hyp, readLumaWeight_codes.after_bind_hyp,
      readChromaWeights_codes.after_bind_hyp, ih.after_bind_hyp, Prod.exists]
    cases chroma
    · constructor
      · rintro ⟨l, wl, ls, cs, ⟨hl, w, rfl⟩, ⟨⟩, c⟩
        exact ⟨⟨congrArg (· + 1) hl, List.forall_mem_cons.2 ⟨wl, w⟩, rfl⟩, c⟩
      · rintro ⟨⟨hl, w, rfl⟩, c⟩
        obtain ⟨l, ls, rfl⟩ := List.exists_cons_of_length_eq_add_one hl
        obtain ⟨wl, w⟩ := List.forall_mem_cons.1 w
        exact ⟨l, wl, ls, [], ⟨Nat.succ.inj hl, w, rfl⟩, rfl, c⟩
    · constructor
      · rintro ⟨l, wl, k, wk, ls, cs, ⟨hl, w, hc, wc⟩, ⟨⟩, c⟩
        exact ⟨⟨congrArg (· + 1) hl, List.forall_mem_cons.2 ⟨wl, w⟩, congrArg (· + 1) hc,
          List.forall_mem_cons.2 ⟨wk, wc⟩⟩, c⟩
      · rintro ⟨⟨hl, w, hc, wc⟩, c⟩
        obtain ⟨l, ls, rfl⟩ := List.exists_cons_of_length_eq_add_one hl
        obtain ⟨k, cs, rfl⟩ := List.exists_cons_of_length_eq_add_one hc
        obtain ⟨wl, w⟩ := List.forall_mem_cons.1 w
        obtain ⟨wk, wc⟩ := List.forall_mem_cons.1 wc
        exact ⟨l, wl, k, wk, ls, cs, ⟨Nat.succ.inj hl, w, Nat.succ.inj hc, wc⟩, rfl, c⟩

theorem readPredWeightEntries_enc (chroma : Bool) (lws : List (Option (Int × Int))) (cws : List (List (Int × Int)))
    (hl : ∀ l ∈ lws, LumaW.WF l)
    (hc : if chroma then cws.length = lws.length ∧ ∀ c ∈ cws, ChromaW.WF c else cws = [])
    (rest fin) :
    readPredWeightEntries chroma lws.length ⟨encPredWeightEntries chroma lws cws ++ rest, fin⟩
      = .ok ((lws, cws), ⟨rest, fin⟩) :=
  (readPredWeightEntries_codes chroma lws.length).enc (v := (lws, cws)) ⟨rfl, hl, hc⟩ rest fin

theorem readPredWeightTable_codes (fam : Family) (pps : Pps.Pps) (sps : Sps.Sps) (nra : Option NumRefIdxActive) :
    Codes (readPredWeightTable fam pps sps nra) (PwtWF fam pps sps nra) (encPredWeightTable (isChroma sps)) := by
  intro s ⟨ld, cd, lws, cws⟩ s'
  rw [after_start]
  simp only [readPredWeightTable, PwtWF, encPredWeightTable,
    show (!sps.chromaInfo.separateColourPlaneFlag && sps.chromaInfo.chromaFormat != .monochrome) = isChroma sps from rfl]
  generalize isChroma sps = chroma
  cases chroma <;>
    simp only [Bool.false_eq_true, if_false, if_true, bind_bind, pure_bind', parse_hyp,
      (readPredWeightEntries_codes _ _).after_bind_hyp, Prod.exists]
  · -- the encoder has `[]` in the place of the chroma denominator
    constructor
    · rintro ⟨_, uld, _, _, w, hB, ⟨⟩, c⟩
      exact ⟨⟨hB, uld, rfl, w⟩, by rw [List.append_nil]; exact c⟩
    · rintro ⟨⟨hB, uld, rfl, w⟩, c⟩
      exact ⟨ld, uld, lws, cws, w, hB, rfl, by rw [List.append_nil] at c; exact c⟩
  · constructor
    · rintro ⟨_, uld, v, uv, _, _, w, hB, ⟨⟩, c⟩
      exact ⟨⟨hB, uld, ⟨v, rfl, uv⟩, w⟩, c⟩
    · rintro ⟨⟨hB, uld, ⟨v, rfl, uv⟩, w⟩, c⟩
      exact ⟨ld, uld, v, uv, lws, cws, w, hB, rfl, c⟩

/-! ### dec_ref_pic_marking -/

theorem encMmco_length_pos (o : Mmco) : 1 ≤ (encMmco o).length := by
  cases o
  case allUnused => exact encUe_length_pos 5
  all_goals simp only [encMmco, List.append_assoc]; exact encUe_append_length_pos _ _

theorem readMmcos_nil (f : Nat) (s0 pre) (s' : Src) :
    After (readMmcos (f + 1)) s0 pre ([], s') ↔ s0.Consumes s' (pre ++ encUe 0) := by
  simp only [readMmcos, after_readUe_hyp, after_ite_cases_hyp, after_map, after_pure, after_fail,
    reduceCtorEq, false_and, exists_false, and_false, or_false, true_and]
  constructor
  · rintro ⟨_, -, rfl, c⟩; exact c
  · intro c; exact ⟨0, by omega, rfl, c⟩

theorem readMmcos_cons (f : Nat) (s0 pre) (o : Mmco) (ops : List Mmco) (s' : Src) :
    After (readMmcos (f + 1)) s0 pre (o :: ops, s') ↔ o.WF ∧ After (readMmcos f) s0 (pre ++ encMmco o) (ops, s') := by
  constructor
  · simp only [readMmcos, after_readUe_hyp, after_ite_cases_hyp, after_map, after_pure, after_fail]
    -- the alternatives are the operations 0 (the terminator, which yields no `o`) to 6
    rintro ⟨op, -, ⟨-, ⟨⟩, -⟩ | ⟨-, ⟨rfl, d, ud, _, ⟨⟩, h⟩ | ⟨-, ⟨rfl, n, un, _, ⟨⟩, h⟩ |
      ⟨-, ⟨rfl, d, ud, i, ui, _, ⟨⟩, h⟩ | ⟨-, ⟨rfl, m, um, _, ⟨⟩, h⟩ | ⟨-, ⟨rfl, _, ⟨⟩, h⟩ |
      ⟨-, ⟨rfl, i, ui, _, ⟨⟩, h⟩ | ⟨-, ⟨⟩⟩⟩⟩⟩⟩⟩⟩⟩ <;> simp only [encMmco, ← List.append_assoc]
    · exact ⟨ud, h⟩
    · exact ⟨un, h⟩
    · exact ⟨⟨ud, ui⟩, h⟩
    · exact ⟨um, h⟩
    · exact ⟨trivial, h⟩
    · exact ⟨ui, h⟩
  · simp only [readMmcos, after_readUe_hyp, after_ite, after_map, after_pure, after_fail]
    rintro ⟨w, h⟩
    -- the `if` chain evaluates on the operation's number
    cases o <;> simp only [encMmco, ← List.append_assoc] at h
    · exact ⟨1, by omega, _, w, ops, rfl, h⟩
    · exact ⟨2, by omega, _, w, ops, rfl, h⟩
    · exact ⟨3, by omega, _, w.1, _, w.2, ops, rfl, h⟩
    · exact ⟨4, by omega, _, w, ops, rfl, h⟩
    · exact ⟨5, by omega, ops, rfl, h⟩
    · exact ⟨6, by omega, _, w, ops, rfl, h⟩

theorem readMmcos_codes (fuel : Nat) : Codes (readMmcos fuel) (fun ops => ops.length < fuel ∧ ∀ o ∈ ops, o.WF)
    fun ops => (ops.map encMmco).flatten ++ encUe 0 :=
  Codes.loop rfl readMmcos_nil readMmcos_cons fuel

theorem readMmcos_enc (ops : List Mmco) (wf : ∀ o ∈ ops, o.WF) (fuel : Nat) (hf : ops.length < fuel) (rest fin) :
    readMmcos fuel ⟨(ops.map encMmco).flatten ++ (encUe 0 ++ rest), fin⟩ = .ok (ops, ⟨rest, fin⟩) := by
  simpa [List.append_assoc] using (readMmcos_codes fuel).enc ⟨hf, wf⟩ rest fin

theorem readMmcosAuto_codes : Codes (fun s => readMmcos (s.bits.length + 1) s) (fun ops => ∀ o ∈ ops, o.WF)
    fun ops => (ops.map encMmco).flatten ++ encUe 0 :=
  Codes.fuel readMmcos_codes (length_lt_flatten _ encMmco_length_pos 0)

theorem readDecRefPicMarking_codes (hdr : NalHdr) :
    Codes (readDecRefPicMarking hdr) (DecRefPicMarking.WF hdr) encDecRefPicMarking := by
  intro s m s'
  rw [after_start]
  simp only [readDecRefPicMarking, parse_iff, readMmcosAuto_codes.after_bind]
  rcases m with ⟨a, b⟩ | _ | ops <;> split <;> simp [DecRefPicMarking.WF, encDecRefPicMarking, and_assoc, *]
  case adaptive.isFalse => exact and_comm

/-! ### the elements of slice_header( ), in order

The encoder and the condition of an element take the header, of which they look at the element's field (and at
fields read before it): the statement is at `{ hd with field := v }`, any header with the value read in that field. -/

theorem readColourPlane_codes (sps : Sps.Sps) (hd : SliceHeader) : Codes (readColourPlane sps)
    (fun o => if sps.chromaInfo.separateColourPlaneFlag then ∃ v, o = some v ∧ v ≤ 2 else o = none)
    fun o => encColourPlane sps { hd with colourPlane := o } := by
  intro s o s'
  rw [after_start]; simp only [readColourPlane, encColourPlane, parse_hyp]
  split
  · constructor
    · rintro ⟨v, -, h2, rfl, c⟩; exact ⟨⟨v, rfl, Nat.le_of_not_gt h2⟩, c⟩
    · -- `v ≤ 2` implies the range of the two bits read
      rintro ⟨⟨v, rfl, h2⟩, c⟩; exact ⟨v, by omega, by omega, rfl, c⟩
  · exact Iff.rfl

theorem readFieldPic_codes (sps : Sps.Sps) (hd : SliceHeader) : Codes (readFieldPic sps)
    (fun fp => sps.frameMbsFlags = .frames → fp = .frame) fun fp => encFieldPic sps { hd with fieldPic := fp } := by
  intro s fp s'
  rw [after_start]; simp only [readFieldPic, encFieldPic]
  rcases sps.frameMbsFlags with _ | m <;> rcases fp with _ | _ | _ <;> simp [parse_iff]

theorem readIdrPicId_codes (hdr : NalHdr) (hd : SliceHeader) : Codes (readIdrPicId hdr)
    (fun o => if hdr.nalUnitType = 5 then ∃ v, o = some v ∧ Ue v else o = none)
    fun o => encIdrPicId hdr { hd with idrPicId := o } :=
  (readUe_codes _).opt _ 0

theorem readPoc_codes (sps : Sps.Sps) (pps : Pps.Pps) (hd : SliceHeader) (fp : FieldPic) : Codes (readPoc sps pps fp)
    (fun v => PocWF sps pps { hd with fieldPic := fp, picOrderCntLsb := v })
    fun v => encPoc sps pps { hd with fieldPic := fp, picOrderCntLsb := v } := by
  intro s v s'
  rw [after_start]
  simp only [readPoc, encPoc, PocWF]
  generalize (pps.bottomFieldPicOrderInFramePresentFlag && fp == .frame) = bc
  rcases sps.picOrderCnt with l | ⟨az, _, _, _⟩ | _ <;> simp only [parse_iff]
  · cases bc <;> rcases v with _ | v | v | v <;> simp [and_assoc] <;> exact iff_of_eq (by ac_rfl)
  · cases az <;> cases bc <;> rcases v with _ | v | v | v <;> simp [and_assoc]
    case false.false.some.fieldsDelta => exact fun _ => and_comm
    case false.true.some.fieldsDelta => exact iff_of_eq (by ac_rfl)

theorem readRedundant_codes (pps : Pps.Pps) (hd : SliceHeader) : Codes (readRedundant pps)
    (fun o => if pps.redundantPicCntPresentFlag then ∃ v, o = some v ∧ Ue v else o = none)
    fun o => encRedundant pps { hd with redundantPicCnt := o } :=
  (readUe_codes _).opt _ 0

theorem readDirect_codes (fam : Family) (hd : SliceHeader) : Codes (readDirect fam)
    (fun o => if fam = .B then ∃ b, o = some b else o = none)
    fun o => encDirect fam { hd with directSpatialMvPredFlag := o } := by
  intro s o s'
  simpa only [readDirect, encDirect, and_true] using (readBool_codes _).opt (fam = .B) false s o s'

theorem readNumRefIdx_codes (nm) : Codes (readNumRefIdx nm) (· ≤ 31) encUe :=
  readUeMax_codes nm 31 _ (by omega)

theorem readNumRefIdxActive_codes (fam : Family) (hd : SliceHeader) : Codes (readNumRefIdxActive fam) (NraWF fam)
    fun o => encNumRefIdxActive fam { hd with numRefIdxActive := o } := by
  intro s o s'
  rw [after_start]
  simp only [readNumRefIdxActive, encNumRefIdxActive, parse_iff, (readNumRefIdx_codes _).after_bind]
  rcases o with _ | l0 | ⟨l0, l1⟩ <;> cases fam <;> simp [NraWF, and_assoc] <;>
    exact iff_of_eq (by ac_rfl)

theorem readPwtOpt_codes (fam : Family) (pps : Pps.Pps) (sps : Sps.Sps) (hd : SliceHeader)
    (nra : Option NumRefIdxActive) : Codes (readPwtOpt fam pps sps nra)
    (fun o => if pwtPresent fam pps then ∃ t, o = some t ∧ PwtWF fam pps sps nra t else o = none)
    fun o => encPwtOpt fam pps sps { hd with predWeightTable := o } := by
  intro s o s'
  rw [after_start]
  simp only [readPwtOpt, encPwtOpt, parse_iff, (readPredWeightTable_codes _ _ _ _).after_bind]
  rcases o with _ | t <;> split <;> simp [and_assoc]
  case some.isTrue => exact and_comm

theorem readMarkingOpt_codes (hdr : NalHdr) (hd : SliceHeader) : Codes (readMarkingOpt hdr)
    (fun o => if hdr.nalRefIdc = 0 then o = none else ∃ m, o = some m ∧ m.WF hdr)
    fun o => encMarkingOpt hdr { hd with decRefPicMarking := o } := by
  intro s o s'
  rw [after_start]
  simp only [readMarkingOpt, encMarkingOpt, parse_iff, (readDecRefPicMarking_codes _).after_bind]
  rcases o with _ | m <;> split <;> simp [and_assoc]
  case some.isFalse => exact and_comm

theorem readCabac_codes (fam : Family) (pps : Pps.Pps) (hd : SliceHeader) : Codes (readCabac fam pps)
    (fun o => if pps.entropyCodingModeFlag ∧ fam ≠ .I ∧ fam ≠ .SI then ∃ v, o = some v ∧ Ue v else o = none)
    fun o => encCabac fam pps { hd with cabacInitIdc := o } :=
  (readUe_codes _).opt _ 0

theorem readQpDelta_codes : Codes readQpDelta (fun q => SeRange q ∧ q ≤ 51) encSe := by
  intro s q s'
  rw [after_start]; simp only [readQpDelta, parse_hyp]
  constructor
  · rintro ⟨_, w, h51, rfl, c⟩; exact ⟨⟨w, Int.not_lt.1 h51⟩, c⟩
  · rintro ⟨⟨w, h51⟩, c⟩; exact ⟨q, w, Int.not_lt.2 h51, rfl, c⟩

theorem readSpSwitch_codes (fam : Family) : Codes (readSpSwitch fam)
    (fun v => if fam = .SP then ∃ b, v = some b else v = none)
    fun v => if fam = .SP then encBool (v.getD false) else [] := by
  intro s v s'
  simpa only [readSpSwitch, and_true] using (readBool_codes _).opt (fam = .SP) false s v s'

/-- slice_qs_delta itself is not kept (only SliceQS is): it is the part of `x` this element determines -/
theorem readSwitchQs_parses (fam : Family) (pps : Pps.Pps) (hd : SliceHeader) : Parses (readSwitchQs fam pps)
    fun v e => ∃ x, SwitchQsWF fam pps { hd with spForSwitchFlag := v.1, sliceQs := v.2 } x ∧
      e = encSwitchQs fam { hd with spForSwitchFlag := v.1, sliceQs := v.2 } x := by
  intro s ⟨sw, qs⟩ s'
  rw [after_start]
  simp only [readSwitchQs, SwitchQsWF, encSwitchQs, parse_iff, (readSpSwitch_codes _).after_bind, Prod.mk.injEq,
    List.nil_append, and_assoc]
  split
  · constructor
    · rintro ⟨_, ⟨d, rfl, e, c, hq, wd⟩, hsw⟩
      exact ⟨_, ⟨{ sliceQsDelta := d }, ⟨hsw, wd, by dsimp only; omega, by dsimp only; omega, e⟩, rfl⟩, c⟩
    · rintro ⟨_, ⟨x, ⟨hsw, wd, h0, h51, e⟩, rfl⟩, c⟩
      exact ⟨_, ⟨x.sliceQsDelta, rfl, e, c, by omega, wd⟩, hsw⟩
  · constructor
    · rintro ⟨e1, e2, c⟩; exact ⟨_, ⟨{}, ⟨e1, e2⟩, rfl⟩, c⟩
    · rintro ⟨_, ⟨_, ⟨e1, e2⟩, rfl⟩, c⟩; exact ⟨e1, e2, c⟩

/-- slice_alpha_c0_offset_div2 and slice_beta_offset_div2 are not kept: they are the part of `x` this element
determines -/
theorem readDeblock_parses (pps : Pps.Pps) (hd : SliceHeader) : Parses (readDeblock pps)
    fun v e => ∃ x, DeblockWF pps { hd with disableDeblockingFilterIdc := v } x ∧
      e = encDeblock pps { hd with disableDeblockingFilterIdc := v } x := by
  intro s v s'
  rw [after_start]
  simp only [readDeblock, DeblockWF, encDeblock]
  cases pps.deblockingFilterControlPresentFlag <;>
    simp only [Bool.false_eq_true, ↓reduceIte, ↓after_guard_hyp, after_ite_cases_hyp, parse_hyp, List.nil_append]
  · constructor
    · rintro ⟨rfl, c⟩; exact ⟨_, ⟨{}, rfl, rfl⟩, c⟩
    · rintro ⟨_, ⟨_, rfl, rfl⟩, c⟩; exact ⟨rfl, c⟩
  · constructor
    · rintro ⟨_, -, h6, ⟨h1, a, -, ha, b, hb, rfl, c⟩ | ⟨h1, rfl, c⟩⟩
      · refine ⟨_, ⟨{ alpha := a, beta := b }, ⟨by omega, fun _ => ⟨?_, ?_, hb⟩⟩, rfl⟩, ?_⟩
        · show -6 ≤ a; omega
        · show a ≤ 6; omega
        · rw [if_pos h1, ← List.append_assoc]; exact c
      · exact ⟨_, ⟨{}, ⟨by omega, fun h => absurd h h1⟩, rfl⟩, by rw [if_neg h1, List.append_nil]; exact c⟩
    · rintro ⟨_, ⟨x, ⟨h6, hx⟩, rfl⟩, c⟩
      refine ⟨v, by omega, by omega, ?_⟩
      by_cases h1 : v ≠ 1
      · obtain ⟨ha, ha', hb⟩ := hx h1
        rw [if_pos h1, ← List.append_assoc] at c
        -- the bounds of alpha imply its `se(v)` range
        exact .inl ⟨h1, x.alpha, by unfold SeRange; omega, by omega, x.beta, hb, rfl, c⟩
      · rw [if_neg h1, List.append_nil] at c
        exact .inr ⟨h1, rfl, c⟩

/-- slice data must precede the RBSP stop bit -/
theorem requireMore_iff (s s' : Src) : requireMore s = .ok ((), s') ↔ s' = s ∧ (s.bits.drop 1).any id = true := by
  rw [requireMore, bind_ok_iff]
  simp only [hasMore_iff]
  constructor
  · rintro ⟨b, _, ⟨rfl, h⟩, hb⟩
    split at h
    · subst h; cases hb; exact ⟨rfl, ‹_›⟩
    · cases h.1 ▸ hb
  · rintro ⟨rfl, h⟩; exact ⟨true, _, ⟨rfl, by rw [if_pos h]⟩, rfl⟩

theorem after_requireMore {α} (a : α) (s0 : Src) (pre : List Bool) (v : α) (s' : Src) :
    After (requireMore >>= fun _ => pure a) s0 pre (v, s') ↔
      v = a ∧ s0.Consumes s' pre ∧ (s'.bits.drop 1).any id = true := by
  constructor
  · rintro ⟨s1, c, h⟩
    obtain ⟨⟨⟩, _, hm, ⟨⟩⟩ := (bind_ok_iff _ _ _ _).1 h
    obtain ⟨rfl, more⟩ := (requireMore_iff _ _).1 hm
    exact ⟨rfl, c, more⟩
  · rintro ⟨rfl, c, more⟩
    exact ⟨s', c, (bind_ok_iff ..).2 ⟨(), s', (requireMore_iff _ _).2 ⟨rfl, more⟩, rfl⟩⟩

#print axioms readPredWeightEntries_enc
#print axioms readModList_exact
end Slice
