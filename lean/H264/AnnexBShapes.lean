import H264.AnnexBPush
namespace AnnexB
open St

/-- C18 shape predicate for one handler call -/
def Call.WellShaped (c : Call) : Prop := (∀ b ∈ c.bufs, b ≠ []) ∧ (c.bufs = [] → c.fin = true)

theorem zeros_ne_nil (n : Nat) (h : n > 0) : zeros n ≠ [] := by
  cases n with
  | zero => omega
  | succ n => simp [zeros, List.replicate_succ]

theorem maybeEmit_shaped (buf : List UInt8) (fs : Option (Nat × Nat)) (e bt : Nat) (isEnd : Bool)
    (he : e ≤ buf.length) : ∀ c ∈ maybeEmit buf fs e bt isEnd, c.WellShaped := by
  intro c hc
  unfold maybeEmit at hc
  match fs with
  | none => simp at hc
  | some (fake, from_) =>
    by_cases hlt : from_ + bt < e
    · have hbody : (buf.take (e - bt)).drop from_ ≠ [] := by
        rw [← List.length_pos_iff, List.length_drop, List.length_take]; omega
      by_cases hfk : fake > 0 <;> simp only [hlt, hfk, ↓reduceIte, List.mem_singleton] at hc <;> subst hc
      · exact ⟨by simp [zeros_ne_nil _ hfk, hbody], by simp⟩
      · exact ⟨by simp [hbody], by simp⟩
    · cases isEnd <;> simp [hlt] at hc
      subst hc
      exact ⟨by simp, by simp⟩

theorem pushIter_shaped (buf : List UInt8) (i : Nat) (hi : i ≤ buf.length) (st : St) (fs : Option (Nat × Nat))
    (b : UInt8) : ∀ c ∈ (pushIter buf i st fs b).2, c.WellShaped := by
  intro c hc
  rcases byte_cases b with rfl | rfl | ⟨h0, h1⟩ <;> cases st <;> simp [pushIter, *] at hc <;>
    exact maybeEmit_shaped buf fs i 2 true hi c hc

theorem pushGo_shaped (buf : List UInt8) (rest : List UInt8) :
    ∀ (i : Nat) (st : St) (fs : Option (Nat × Nat)) (calls : List Call),
    i + rest.length ≤ buf.length →
    (∀ c ∈ calls, c.WellShaped) → ∀ c ∈ (pushGo buf rest i st fs calls).2.2, c.WellShaped := by
  induction rest with
  | nil => intro i st fs calls _ h; simpa [pushGo] using h
  | cons b rest ih =>
    intro i st fs calls hlen h
    rw [List.length_cons] at hlen
    rw [pushGo_cons]
    refine ih _ _ _ _ (by omega) fun c hc => ?_
    rcases List.mem_append.mp hc with h1 | h1
    · exact h c h1
    · exact pushIter_shaped buf i (by omega) st fs b c h1

/-- **C18 (shapes)**: every call made by `push` passes only non-empty slices, and a call without slices ends a unit -/
theorem push_shaped (st : St) (buf : List UInt8) : ∀ c ∈ (push st buf).2, c.WellShaped := by
  have h := pushGo_shaped buf buf 0 st ((backtrack st).map fun b => (b, 0)) [] (by simp) (by simp)
  unfold push
  simp only
  split
  · intro c hc
    rcases List.mem_append.mp hc with h1 | h1
    · exact h c h1
    · exact maybeEmit_shaped buf _ buf.length _ false (Nat.le_refl _) c h1
  · exact h

theorem reset_shaped (st : St) : ∀ c ∈ (reset st).2, c.WellShaped := by
  intro c hc
  cases st <;> simp [reset, backtrack] at hc <;> subst hc <;>
    simp [Call.WellShaped, zeros, List.replicate_succ]

/-- **C18 (reset)**: after `reset` the reader is the freshly constructed one -/
theorem reset_fresh (st : St) : (reset st).1 = start := by
  cases st <;> simp [reset, backtrack]

/-- … and outside a unit `reset` makes no call -/
theorem reset_idle (st : St) (h : backtrack st = none) : (reset st).2 = [] := by
  cases st <;> simp_all [reset, backtrack]

#print axioms push_shaped
end AnnexB
