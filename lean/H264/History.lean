import H264.Context
import H264.SpsRangesAll
import H264.PpsConverse
import H264.Overflow
import H264.SliceRanges
/-! # The parameter-set context as history (C03 / C16 / C19 quantifier "all contexts reachable by earlier accepted inputs")

A context is only ever built by feeding NAL payloads to the SPS / PPS parsers and storing what they accept
(`Context::put_seq_param_set`, `put_pic_param_set`; `AvcDecoderConfigurationRecord::create_context` does the same).
`run` folds an arbitrary sequence of such feeds; `Inv` is what every reachable context satisfies, whatever the bytes
and whatever their order — in particular after a PPS's SPS has been replaced by a different SPS with the same id. -/
namespace History
open Bits

structure St where
  sps : Ctx.PMap Sps.Sps := []
  pps : Ctx.PMap Pps.Pps := []

inductive Op where
  | sps (src : Src)   -- the bits of a type-7 NAL
  | pps (src : Src)   -- the bits of a type-8 NAL

/-- parse against the current context; store on success, leave the context alone on error -/
def step (st : St) : Op → St
  | .sps src => match Sps.parseSps src with
    | .ok (v, _) => { st with sps := Ctx.put st.sps v.spsId v }
    | .error _ => st
  | .pps src => match Pps.parsePps (Ctx.get st.sps) src with
    | .ok (v, _) => { st with pps := Ctx.put st.pps v.ppsId v }
    | .error _ => st

def run (ops : List Op) (st : St := {}) : St := ops.foldl step st

def sctx (st : St) : Slice.Ctx := ⟨Ctx.get st.sps, Ctx.get st.pps⟩

/-- the bounds of `parseSps_ranges_all`, as a predicate on the value -/
def SpsGood (v : Sps.Sps) : Prop :=
  v.RangesCore ∧ v.chromaInfo.bitDepthLumaMinus8 ≤ 6 ∧ v.chromaInfo.bitDepthChromaMinus8 ≤ 6 ∧
  (∀ m, v.chromaInfo.scalingMatrix = some m →
    m.l4x4.length = 6 ∧ m.l8x8.length = if v.chromaInfo.chromaFormat = .yuv444 then 6 else 2)

/-- a stored PPS was accepted against *some* in-range SPS carrying the id it names (the one in the context at that
moment — it may since have been replaced) -/
def PpsGood (v : Pps.Pps) : Prop :=
  ∃ sp sm, SpsGood sp ∧ sp.spsId = v.spsId ∧ v.WF sp sm

def Inv (st : St) : Prop :=
  (∀ i v, Ctx.get st.sps i = some v → v.spsId = i ∧ SpsGood v) ∧
  (∀ i v, Ctx.get st.pps i = some v → v.ppsId = i ∧ PpsGood v)

theorem inv_empty : Inv {} := by
  constructor <;> intro i v h <;> simp [Ctx.get] at h

theorem step_inv (st : St) (op : Op) (h : Inv st) : Inv (step st op) := by
  obtain ⟨hs, hp⟩ := h
  cases op with
  | sps src =>
    simp only [step]
    cases hr : Sps.parseSps src with
    | error e => exact ⟨hs, hp⟩
    | ok r =>
      obtain ⟨a, b, c, d, _⟩ := Sps.parseSps_ranges_all src r.2 r.1 hr
      exact ⟨Ctx.forall_put hs ⟨rfl, a, b, c, d⟩, hp⟩
  | pps src =>
    simp only [step]
    cases hr : Pps.parsePps (Ctx.get st.sps) src with
    | error e => exact ⟨hs, hp⟩
    | ok r =>
      obtain ⟨sp, sm, z, hsp, wf, _, _⟩ := Pps.C05_converse (Ctx.get st.sps) src r.2 r.1 hr
      obtain ⟨hid, hg⟩ := hs _ _ hsp
      exact ⟨hs, Ctx.forall_put hp ⟨rfl, sp, sm, hg, hid, wf⟩⟩

/-- **every reachable context** satisfies the invariant: by induction over the history, for arbitrary inputs -/
theorem run_inv (ops : List Op) (st : St) (h : Inv st) : Inv (run ops st) := by
  induction ops generalizing st with
  | nil => exact h
  | cons op ops ih => exact ih (step st op) (step_inv st op h)

theorem reachable_inv (ops : List Op) : Inv (run ops) := run_inv ops {} inv_empty

/-- so the PPS parser's `u8` product `6 * bit_depth_luma_minus8` and the `i32` negation fit for whatever SPS a
reachable context hands it -/
theorem reachable_qp_bound_fits (ops : List Op) (i : Nat) (v : Sps.Sps) (h : Ctx.get (run ops).sps i = some v) :
    Overflow.FitsU8 (6 * (v.chromaInfo.bitDepthLumaMinus8 : Int)) ∧
    Overflow.FitsI32 (-(26 + 6 * (v.chromaInfo.bitDepthLumaMinus8 : Int))) := by
  obtain ⟨_, _, hb, _⟩ := (reachable_inv ops).1 i v h
  unfold Overflow.FitsU8 Overflow.FitsI32
  omega

/-- and the slice-header parser's bit widths (`log2_max_frame_num_minus4 + 4`, POC lsb width) are at most 16, its
`x + 1` on SPS dimensions fit, for every SPS a reachable context can return -/
theorem reachable_sps_widths (ops : List Op) (i : Nat) (v : Sps.Sps) (h : Ctx.get (run ops).sps i = some v) :
    v.spsId = i ∧ i ≤ 31 ∧ v.log2MaxFrameNumMinus4 + 4 ≤ 16 ∧ v.picWidthInMbsMinus1 + 1 < 2^32 ∧
    v.picHeightInMapUnitsMinus1 + 1 < 2^32 := by
  obtain ⟨hid, hc, _⟩ := (reachable_inv ops).1 i v h
  obtain ⟨_, _, _, h31, hl, _, _, hw, hh, _⟩ := hc
  unfold Sps.Ue at hw hh
  refine ⟨hid, by omega, by omega, by omega, by omega⟩

/-- a slice header accepted in a reachable context returns parameter sets that are the context entries named by its
ids **and** satisfy the stored-value invariants -/
theorem reachable_slice_params (ops : List Op) (hdr : Slice.NalHdr) (s s' : Src) (h : Slice.SliceHeader) (sid pid : Nat)
    (hok : Slice.parseSliceHeader (sctx (run ops)) hdr s = .ok ((h, sid, pid), s')) :
    ∃ pps sps, Ctx.get (run ops).pps pid = some pps ∧ pps.ppsId = pid ∧ pps.spsId = sid ∧
      Ctx.get (run ops).sps sid = some sps ∧ sps.spsId = sid ∧ SpsGood sps ∧ PpsGood pps := by
  obtain ⟨pps, sps, h1, h2, h3, _⟩ := Slice.C16_slice (sctx (run ops)) hdr s s' h sid pid hok
  have i1 := (reachable_inv ops).2 pid pps h1
  have i2 := (reachable_inv ops).1 sid sps h3
  exact ⟨pps, sps, h1, i1.1, h2, h3, i2.1, i2.2, i1.2⟩

#print axioms reachable_inv
#print axioms reachable_slice_params
end History
