import H264.AnnexBPush
namespace AnnexB
open St

/-! declarative Annex B segmentation over 3-byte windows -/
mutual
/-- outside a unit: look for `00 00 01` -/
def outside : List UInt8 → List Ev
  | a :: b :: c :: rest =>
      if a = 0 ∧ b = 0 ∧ c = 1 then inside rest else outside (b :: c :: rest)
  | _ => []
termination_by l => l.length
/-- inside a unit: bytes up to the next `00 00 00` / `00 00 01` / end of stream -/
def inside : List UInt8 → List Ev
  | a :: b :: c :: rest =>
      if a = 0 ∧ b = 0 ∧ c = 0 then Ev.endUnit :: outside (b :: c :: rest)
      else if a = 0 ∧ b = 0 ∧ c = 1 then Ev.endUnit :: inside rest
      else Ev.byte a :: inside (b :: c :: rest)
  | l => l.map Ev.byte ++ [Ev.endUnit]
termination_by l => l.length
end

def resetEv : St → List Ev
  | inUnit => [.endUnit]
  | inUnit1 => [.byte 0, .endUnit]
  | inUnit2 => [.byte 0, .byte 0, .endUnit]
  | _ => []

/-- the state stands for the zeros it has seen -/
def spec : St → List UInt8 → List Ev
  | start, xs => outside xs
  | start1, xs => outside (0 :: xs)
  | start2, xs => outside (0 :: 0 :: xs)
  | inUnit, xs => inside xs
  | inUnit1, xs => inside (0 :: xs)
  | inUnit2, xs => inside (0 :: 0 :: xs)

theorem outside_nil : outside [] = [] := by simp [outside]
theorem outside_1 (a : UInt8) : outside [a] = [] := by simp [outside]
theorem outside_2 (a b : UInt8) : outside [a, b] = [] := by simp [outside]
theorem inside_nil : inside [] = [.endUnit] := by simp [inside]
theorem inside_1 (a : UInt8) : inside [a] = [.byte a, .endUnit] := by simp [inside]
theorem inside_2 (a b : UInt8) : inside [a, b] = [.byte a, .byte b, .endUnit] := by simp [inside]
theorem outside_3 (a b c : UInt8) (rest : List UInt8) :
    outside (a :: b :: c :: rest) =
      if a = 0 ∧ b = 0 ∧ c = 1 then inside rest else outside (b :: c :: rest) := by
  rw [outside]
theorem inside_3 (a b c : UInt8) (rest : List UInt8) :
    inside (a :: b :: c :: rest) =
      if a = 0 ∧ b = 0 ∧ c = 0 then Ev.endUnit :: outside (b :: c :: rest)
      else if a = 0 ∧ b = 0 ∧ c = 1 then Ev.endUnit :: inside rest
      else Ev.byte a :: inside (b :: c :: rest) := by
  rw [inside]

theorem outside_cons_nz (a : UInt8) (l : List UInt8) (h : a ≠ 0) : outside (a :: l) = outside l := by
  match l with
  | [] => rw [outside_1, outside_nil]
  | [b] => rw [outside_2, outside_1]
  | b :: c :: rest => rw [outside_3]; simp [h]

theorem outside_0_nz (b : UInt8) (l : List UInt8) (h : b ≠ 0) : outside (0 :: b :: l) = outside (b :: l) := by
  match l with
  | [] => rw [outside_2, outside_1]
  | c :: rest => rw [outside_3]; simp [h]

theorem inside_cons_nz (a : UInt8) (l : List UInt8) (h : a ≠ 0) :
    inside (a :: l) = .byte a :: inside l := by
  match l with
  | [] => rw [inside_1, inside_nil]
  | [b] => rw [inside_2, inside_1]
  | b :: c :: rest => rw [inside_3]; simp [h]

theorem inside_0_nz (b : UInt8) (l : List UInt8) (h : b ≠ 0) :
    inside (0 :: b :: l) = .byte 0 :: inside (b :: l) := by
  match l with
  | [] => rw [inside_2, inside_1]
  | c :: rest => rw [inside_3]; simp [h]

/-- one byte of the machine against the window functions -/
theorem spec_cons (s : St) (b : UInt8) (xs : List UInt8) :
    spec s (b :: xs) = (step s b).2 ++ spec (step s b).1 xs := by
  rcases byte_cases b with rfl | rfl | ⟨h0, h1⟩
  · cases s <;> simp only [step, spec, ↓reduceIte, List.nil_append]
    -- a third zero after two: the window functions look at three bytes
    case start2 => rw [outside_3]; simp
    case inUnit2 => rw [inside_3]; simp
  · cases s <;> simp [step, spec, outside_3, inside_3, outside_cons_nz, outside_0_nz, inside_cons_nz, inside_0_nz]
  · cases s <;>
      simp [step, spec, h0, h1, outside_3, inside_3, outside_cons_nz, outside_0_nz, inside_cons_nz, inside_0_nz]

/-- the byte-level machine followed by `reset` computes the declarative segmentation -/
theorem run_spec (s : St) (xs : List UInt8) :
    (run s xs).2 ++ resetEv (run s xs).1 = spec s xs := by
  induction xs generalizing s with
  | nil => cases s <;> simp [run, resetEv, spec, outside_nil, outside_1, outside_2, inside_nil, inside_1, inside_2]
  | cons b bs ih => simp only [run, spec_cons, List.append_assoc, ih]

theorem run_append (s : St) (xs ys : List UInt8) :
    run s (xs ++ ys) = ((run (run s xs).1 ys).1, (run s xs).2 ++ (run (run s xs).1 ys).2) := by
  induction xs generalizing s with
  | nil => simp [run]
  | cons x xs ih => simp [run, ih, List.append_assoc]

/-- all pushes of a chunked stream, from a given state -/
def pushAll : St → List (List UInt8) → St × List Call
  | s, [] => (s, [])
  | s, c :: cs => let r := push s c; let r' := pushAll r.1 cs; (r'.1, r.2 ++ r'.2)

theorem pushAll_run (s : St) (chunks : List (List UInt8)) :
    (pushAll s chunks).1 = (run s chunks.flatten).1 ∧
    events (pushAll s chunks).2 = (run s chunks.flatten).2 := by
  induction chunks generalizing s with
  | nil => simp [pushAll, run, events]
  | cons c cs ih =>
    obtain ⟨p1, p2⟩ := push_refines_run s c
    obtain ⟨i1, i2⟩ := ih (push s c).1
    simp only [pushAll, List.flatten_cons, run_append, events_append]
    rw [p1] at i1 i2
    rw [p1]
    exact ⟨i1, by rw [p2, i2]⟩

theorem events_reset (s : St) : events (reset s).2 = resetEv s := by
  cases s <;> simp [reset, backtrack, resetEv, events, Call.events, zeros]

/-- **C01**: whatever the partition into pushes (any number, any sizes, empty pieces included),
the bytes and end markers delivered after the final reset are the declarative segmentation of the stream -/
theorem C01_reset (chunks : List (List UInt8)) :
    events ((pushAll start chunks).2 ++ (reset (pushAll start chunks).1).2) = outside chunks.flatten := by
  obtain ⟨h1, h2⟩ := pushAll_run start chunks
  rw [events_append, h2, h1, events_reset, run_spec]
  rfl

theorem C01_chunking (cs₁ cs₂ : List (List UInt8)) (h : cs₁.flatten = cs₂.flatten) :
    events ((pushAll start cs₁).2 ++ (reset (pushAll start cs₁).1).2) =
    events ((pushAll start cs₂).2 ++ (reset (pushAll start cs₂).1).2) := by
  rw [C01_reset, C01_reset, h]

/-- without reset: every prefix of the pushes has delivered the same thing however it was cut -/
theorem C01_prefix (cs₁ cs₂ : List (List UInt8)) (h : cs₁.flatten = cs₂.flatten) :
    events (pushAll start cs₁).2 = events (pushAll start cs₂).2 ∧ (pushAll start cs₁).1 = (pushAll start cs₂).1 := by
  obtain ⟨a1, a2⟩ := pushAll_run start cs₁
  obtain ⟨b1, b2⟩ := pushAll_run start cs₂
  rw [a1, a2, b1, b2, h]; exact ⟨rfl, rfl⟩

example : outside [0,0,0,1,0x67,0,0,3,0,0,1,0x68,0] =
    [.byte 0x67, .byte 0, .byte 0, .byte 3, .endUnit, .byte 0x68, .byte 0, .endUnit] := by
  simp [outside, inside]

#print axioms C01_reset
end AnnexB
