/-! Prototype: L0 model of `rbsp::ByteReader` over a chunked NAL reader; `unescFrom` is what it refines to (`RbspTryFill`, `RbspFill`, `RbspRead`) -/
namespace Rbsp

inductive IoKind | eof | wouldBlock | invalidData
deriving DecidableEq, Repr

/-- model of `RefNalReader` -/
structure Chunked where
  cur : List UInt8
  tail : List (List UInt8)
  complete : Bool
deriving DecidableEq, Repr

namespace Chunked
def nextChunk (c : Chunked) : Chunked :=
  match c.tail with
  | first :: tail => { c with cur := first, tail := tail }
  | [] => { c with cur := [] }

def fillBuf (c : Chunked) : Except IoKind (List UInt8) :=
  if c.cur = [] ∧ c.complete = false then .error .wouldBlock else .ok c.cur

/-- `consume amt`, precondition `amt ≤ cur.length` -/
def consume (c : Chunked) (amt : Nat) : Chunked :=
  let c' := { c with cur := c.cur.drop amt }
  if c'.cur = [] then c'.nextChunk else c'

/-- all bytes still to come -/
def rest (c : Chunked) : List UInt8 := c.cur ++ c.tail.flatten

/-- chunks are non-empty, and `cur` is empty only at the very end -/
def WF (c : Chunked) : Prop := (∀ t ∈ c.tail, t ≠ []) ∧ (c.cur = [] → c.tail = [])
end Chunked

inductive PS | start | oneZero | twoZero | skip (n : Nat) | three | postThree
deriving DecidableEq, Repr

structure BR where
  inner : Chunked
  st : PS
  i : Nat
  maxFill : Nat
deriving Repr

/-- spec-level continuation of the scanner: output bytes and whether the input stayed valid -/
def unescFrom : PS → List UInt8 → List UInt8 × Bool
  | _, [] => ([], true)
  | .start, b :: bs =>
      if b = 0 then let r := unescFrom .oneZero bs; (b :: r.1, r.2)
      else let r := unescFrom .start bs; (b :: r.1, r.2)
  | .oneZero, b :: bs =>
      if b = 0 then let r := unescFrom .twoZero bs; (b :: r.1, r.2)
      else let r := unescFrom .start bs; (b :: r.1, r.2)
  | .twoZero, b :: bs =>
      if b = 3 then unescFrom .postThree bs
      else if b = 0 then ([], false)
      else let r := unescFrom .start bs; (b :: r.1, r.2)
  | .skip n, _ :: bs => unescFrom (if n ≤ 1 then .start else .skip (n - 1)) bs
  | .three, _ :: bs => unescFrom .postThree bs
  | .postThree, b :: bs =>
      if b = 0 then let r := unescFrom .oneZero bs; (b :: r.1, r.2)
      else if b ≤ 3 then let r := unescFrom .start bs; (b :: r.1, r.2)
      else ([], false)

inductive ScanRes
  | done (st : PS) (i : Nat)
  | consumeInner (k : Nat) (st : PS)
  | invalid (st : PS) (i : Nat)
deriving Repr

/-- the `while self.i < limit` loop of `try_fill_buf_slow`; `todo` = bytes `chunk[i..limit]` -/
def scan (chunkLen : Nat) : PS → Nat → List UInt8 → ScanRes
  | st, i, [] => .done st i
  | .start, i, b :: bs => if b = 0 then scan chunkLen .oneZero (i+1) bs else scan chunkLen .start (i+1) bs
  | .oneZero, i, b :: bs => if b = 0 then scan chunkLen .twoZero (i+1) bs else scan chunkLen .start (i+1) bs
  | .twoZero, i, b :: bs =>
      if b = 3 then .done .three i
      else if b = 0 then .invalid .twoZero i
      else scan chunkLen .start (i+1) bs
  | .skip n, _, _ :: _ =>
      let k := min chunkLen n
      .consumeInner k (if n - k = 0 then .start else .skip (n - k))
  | .three, _, _ :: _ => .consumeInner 1 .postThree
  | .postThree, i, b :: bs =>
      if b = 0 then scan chunkLen .oneZero (i+1) bs
      else if b ≤ 3 then scan chunkLen .start (i+1) bs
      else .invalid .postThree i

/-- `try_fill_buf_slow` (called with `i = 0`): new reader and `Ok(more)` / `Err(kind)` -/
def tryFill (r : BR) : BR × Except IoKind Bool :=
  match r.inner.fillBuf with
  | .error k => (r, .error k)
  | .ok chunk =>
    if chunk = [] then (r, .ok false) else
    let limit := min chunk.length r.maxFill
    match scan chunk.length r.st r.i ((chunk.take limit).drop r.i) with
    | .done st i => ({ r with st := st, i := i }, .ok true)
    | .consumeInner k st => ({ r with inner := r.inner.consume k, st := st }, .ok true)
    | .invalid st i => ({ r with st := st, i := i }, .error .invalidData)

/-- `while self.i == 0 && self.try_fill_buf_slow()? {}` with explicit fuel -/
def fillLoop : Nat → BR → BR × Except IoKind Unit
  | 0, r => (r, .ok ())
  | fuel+1, r =>
    if r.i ≠ 0 then (r, .ok ()) else
    match tryFill r with
    | (r', .error k) => (r', .error k)
    | (r', .ok false) => (r', .ok ())
    | (r', .ok true) => fillLoop fuel r'

/-- enough fuel: every productive iteration with `i` still 0 consumes ≥ 1 inner byte -/
def fuelFor (r : BR) : Nat := 2 * r.inner.rest.length + 3

def fillBuf (r : BR) : BR × Except IoKind (List UInt8) :=
  match fillLoop (fuelFor r) r with
  | (r', .error k) => (r', .error k)
  | (r', .ok ()) =>
    match r'.inner.fillBuf with
    | .error k => (r', .error k)
    | .ok chunk => (r', .ok (chunk.take r'.i))

/-- `consume amt`; precondition `amt ≤ i` (Rust: `checked_sub(amt).unwrap()`) -/
def consume (r : BR) (amt : Nat) : BR :=
  { r with i := r.i - amt, inner := r.inner.consume amt }

def read (r : BR) (n : Nat) : BR × Except IoKind (List UInt8) :=
  match fillBuf r with
  | (r', .error k) => (r', .error k)
  | (r', .ok chunk) =>
    let amt := min n chunk.length
    (consume r' amt, .ok (chunk.take amt))

/-- what the reader will still deliver, and whether the rest of the input is valid -/
def view (r : BR) : List UInt8 × Bool :=
  let u := unescFrom r.st (r.inner.rest.drop r.i)
  (r.inner.cur.take r.i ++ u.1, u.2)

/-- representation invariant -/
def Inv (r : BR) : Prop :=
  r.inner.WF ∧ r.i ≤ r.inner.cur.length ∧ 1 ≤ r.maxFill ∧
  (∀ n, r.st = .skip n → r.i = 0 ∧ 1 ≤ n)

end Rbsp
