import H264.RbspScan
import H264.RefNalProofs
namespace Rbsp

theorem unescFrom_skip_drop (n : Nat) (hn : 1 ≤ n) (xs : List UInt8) :
    unescFrom (.skip n) xs = unescFrom .start (xs.drop n) := by
  induction xs generalizing n with
  | nil => rw [List.drop_nil, unescFrom_nil, unescFrom_nil]
  | cons x xs ih =>
    -- one byte takes `skip 1` to `start` and `skip (m + 2)` to `skip (m + 1)`, by computation
    match n, hn with
    | 1, _ => rfl
    | m + 2, _ => exact ih (m + 1) (Nat.succ_pos m)

theorem unescFrom_skip (n : Nat) (hn : 1 ≤ n) (chunk after : List UInt8) (hc : chunk ≠ []) :
    unescFrom (.skip n) (chunk ++ after) =
      unescFrom (if n - min chunk.length n = 0 then .start else .skip (n - min chunk.length n))
        (chunk.drop (min chunk.length n) ++ after) := by
  rw [unescFrom_skip_drop n hn, List.drop_append]
  by_cases h : n ≤ chunk.length
  · rw [Nat.min_eq_right h, Nat.sub_self, if_pos rfl, Nat.sub_eq_zero_of_le h, List.drop_zero]
  · have hne : n - chunk.length ≠ 0 := by omega
    rw [Nat.min_eq_left (by omega), if_neg hne, unescFrom_skip_drop _ (by omega), List.drop_length,
      List.drop_eq_nil_of_le (by omega)]
    rfl

/-- termination measure of the fill loop: an iteration that leaves `i = 0` consumes inner bytes, except the step from
`twoZero` to `three`, which costs the second summand; the factor 2 makes the byte consumed on leaving `three` outweigh
getting that summand back -/
def measure (r : BR) : Nat := 2 * r.inner.rest.length + (if r.st = .three then 0 else 1)

theorem tryFill_wouldBlock {r : BR} (h1 : r.inner.cur = []) (h2 : r.inner.complete = false) :
    tryFill r = (r, .error .wouldBlock) := by
  simp [tryFill, Chunked.fillBuf, h1, h2]

theorem tryFill_end {r : BR} (h1 : r.inner.cur = []) (h2 : r.inner.complete = true) : tryFill r = (r, .ok false) := by
  simp [tryFill, Chunked.fillBuf, h1, h2]

theorem tryFill_scan {r : BR} (h : r.inner.cur ≠ []) :
    tryFill r =
      match scan r.inner.cur.length r.st r.i ((r.inner.cur.take (min r.inner.cur.length r.maxFill)).drop r.i) with
      | .done st i => ({ r with st := st, i := i }, .ok true)
      | .consumeInner k st => ({ r with inner := r.inner.consume k, st := st }, .ok true)
      | .invalid st i => ({ r with st := st, i := i }, .error .invalidData) := by
  simp only [tryFill, Chunked.fillBuf, h, false_and, ↓reduceIte]
  rfl

/-- as far as the bytes passed on go, stopping at an invalid byte is like stopping at the end of the window -/
theorem ScanSound.done_of_invalid {st st' : PS} {i i' : Nat} {todo after : List UInt8}
    (h : ScanSound st i todo after (.invalid st' i')) : ScanSound st i todo after (.done st' i') := by
  obtain ⟨k, hk, hi, he, he2⟩ := h
  exact ⟨k, hk, hi, by rw [he, he2, List.append_nil]⟩

/-- with `i = 0`, state and `i` may move on over the bytes that a scan of a window `todo` of the chunk has passed on -/
theorem advance_spec {r : BR} (hinv : Inv r) (hi : r.i = 0) {todo after : List UInt8} {st' : PS} {i' : Nat}
    (hall : todo ++ after = r.inner.rest) (hlen : todo.length ≤ r.inner.cur.length)
    (hss : ScanSound r.st 0 todo after (.done st' i')) (hns : st'.isSkip = false) :
    Inv { r with st := st', i := i' } ∧ view { r with st := st', i := i' } = view r := by
  obtain ⟨k, hk, rfl, he⟩ := hss
  rw [← List.take_append_of_le_length hk, ← List.drop_append_of_le_length hk, hall] at he
  have hk' : k ≤ r.inner.cur.length := Nat.le_trans hk hlen
  rw [Nat.zero_add]
  refine ⟨⟨hinv.1, hk', hinv.2.2.1, fun n hn => ?_⟩, ?_⟩
  · rw [show st' = .skip n from hn] at hns; cases hns
  · simp only [view, hi, List.drop_zero, List.take_zero, List.nil_append]
    rw [he, Chunked.rest, List.take_append_of_le_length hk']

/-- with `i = 0`, dropping `k` bytes of the chunk that the view does not show -/
theorem consumeInner_spec {r : BR} (hinv : Inv r) (hi : r.i = 0) {k : Nat} {st' : PS} (hk1 : 1 ≤ k)
    (hk : k ≤ r.inner.cur.length) (hsk : st' ≠ .skip 0)
    (he : unescFrom r.st (r.inner.cur ++ r.inner.tail.flatten) =
      unescFrom st' (r.inner.cur.drop k ++ r.inner.tail.flatten)) :
    Inv { r with inner := r.inner.consume k, st := st' } ∧
    view { r with inner := r.inner.consume k, st := st' } = view r ∧
    (r.inner.consume k).complete = r.inner.complete ∧
    measure { r with inner := r.inner.consume k, st := st' } < measure r := by
  obtain ⟨hr1, hr2, hr3⟩ := Chunked.consume_rest r.inner k hinv.1 hk
  refine ⟨⟨hr2, by simp [hi], hinv.2.2.1, fun n hn => ⟨hi, ?_⟩⟩, ?_, hr3, ?_⟩
  · exact Nat.pos_of_ne_zero fun h0 => hsk (by rw [show st' = .skip n from hn, h0])
  · simp only [view, hi, List.drop_zero, List.take_zero, hr1]
    rw [Chunked.rest, he, List.drop_append_of_le_length hk]
  · have hL : k ≤ r.inner.rest.length := by simp [Chunked.rest]; omega
    have h1 : (if st' = .three then 0 else 1) ≤ 1 := by split <;> omega
    simp only [measure, hr1, List.length_drop]
    omega

theorem tryFill_spec (r : BR) (hinv : Inv r) (hi : r.i = 0) :
    Inv (tryFill r).1 ∧ view (tryFill r).1 = view r ∧
    (tryFill r).1.inner.complete = r.inner.complete ∧ (tryFill r).1.maxFill = r.maxFill ∧
    (match (tryFill r).2 with
     | .error .wouldBlock => (tryFill r).1 = r ∧ r.inner.cur = [] ∧ r.inner.complete = false
     | .error .invalidData => (view r).2 = false
     | .error .eof => False
     | .ok false => (tryFill r).1 = r ∧ r.inner.cur = [] ∧ r.inner.complete = true
     | .ok true => measure (tryFill r).1 < measure r ∨ (tryFill r).1.i ≠ 0) := by
  by_cases hemp : r.inner.cur = []
  · by_cases hc : r.inner.complete = true
    · rw [tryFill_end hemp hc]; exact ⟨hinv, rfl, rfl, rfl, rfl, hemp, hc⟩
    · rw [Bool.not_eq_true] at hc
      rw [tryFill_wouldBlock hemp hc]; exact ⟨hinv, rfl, rfl, rfl, rfl, hemp, hc⟩
  obtain ⟨inner, st, i, maxFill⟩ := r
  obtain rfl : i = 0 := hi
  rw [tryFill_scan hemp, List.drop_zero]
  dsimp only at hemp ⊢
  -- the window is `b :: bs`; with what follows it, it is all that is still to come
  have hlen : 1 ≤ inner.cur.length := List.length_pos_iff.mpr hemp
  have hlim : 1 ≤ min inner.cur.length maxFill := Nat.le_min.mpr ⟨hlen, hinv.2.2.1⟩
  generalize min inner.cur.length maxFill = limit at hlim
  have hall : inner.cur.take limit ++ (inner.cur.drop limit ++ inner.tail.flatten) = inner.rest := by
    rw [← List.append_assoc, List.take_append_drop]; rfl
  have hwin : (inner.cur.take limit).length ≤ inner.cur.length := List.length_take_le' _ _
  obtain ⟨b, bs, hbs⟩ := List.exists_cons_of_ne_nil (l := inner.cur.take limit)
    (fun h => by rw [← List.length_eq_zero_iff, List.length_take] at h; omega)
  have hss := scan_sound inner.cur.length st 0 (inner.cur.take limit) (inner.cur.drop limit ++ inner.tail.flatten)
  generalize hsc : scan inner.cur.length st 0 (inner.cur.take limit) = res at hss ⊢
  rw [hbs] at hsc
  cases res with
  | done st' i' =>
    obtain ⟨a1, a2⟩ := advance_spec hinv rfl hall hwin hss (scan_done_cons_noskip hsc)
    refine ⟨a1, a2, rfl, rfl, ?_⟩
    rcases scan_progress _ _ _ _ _ _ _ hsc with h | ⟨h1, h2, _⟩
    · exact .inr (Nat.ne_of_gt h)
    · exact .inl (by simp [measure, h1, h2])
  | invalid st' i' =>
    obtain ⟨a1, a2⟩ := advance_spec hinv rfl hall hwin hss.done_of_invalid
      (by rcases scan_invalid_state _ _ _ _ _ _ hsc with h | h <;> rw [h] <;> rfl)
    refine ⟨a1, a2, rfl, rfl, ?_⟩
    obtain ⟨_, _, _, h1, _⟩ := hss
    simp only [view, List.drop_zero, ← hall, h1]
  | consumeInner k st' =>
    rcases hss.2 with ⟨n, rfl⟩ | rfl
    · cases hsc
      have hn1 := (hinv.2.2.2 n rfl).2
      obtain ⟨c1, c2, c3, c4⟩ := consumeInner_spec hinv rfl (k := min inner.cur.length n) (by omega)
        (Nat.min_le_left _ _) (by split <;> simp; omega) (unescFrom_skip n hn1 _ _ hemp)
      exact ⟨c1, c2, c3, rfl, .inl c4⟩
    · cases hsc
      obtain ⟨c, cs, hcs⟩ := List.exists_cons_of_ne_nil hemp
      obtain ⟨c1, c2, c3, c4⟩ := consumeInner_spec hinv rfl (k := 1) (st' := .postThree) (Nat.le_refl 1) hlen
        (by simp) (by dsimp only; rw [hcs]; rfl)
      exact ⟨c1, c2, c3, rfl, .inl c4⟩

end Rbsp
