import H264.Closed
/-! C17: prefix-monotonicity `Mono`, shown of the primitives; it is a `ClosedProp` (`monoProp`), so every model parser
has it (`ClosedParsers`, `SliceLoops`). -/
namespace Bits

/-- `s'` is a truncated, still-incomplete view of `s` -/
def Src.IsPrefixOf (s' s : Src) : Prop := s'.fin = .wouldBlock ∧ ∃ t, s.bits = s'.bits ++ t

def Err.isWouldBlock : Err → Prop
  | .io _ .wouldBlock => True
  | _ => False

/-- outcome on the truncated source vs. outcome `full` on the complete one -/
def MonoRes {α} (full : Except Err (α × Src)) : Except Err (α × Src) → Prop
  | .ok (a, r') => ∃ r, full = .ok (a, r) ∧ r'.IsPrefixOf r
  | .error e => e.isWouldBlock ∨ ∃ e', full = .error e'

/-- prefix-monotone parser: on a truncated source it either needs more data, or agrees with the full run -/
def Mono {α} (p : P α) : Prop := ∀ s' s, s'.IsPrefixOf s → MonoRes (p s) (p s')

theorem Mono.pure {α} (a : α) : Mono (pure a : P α) := by
  intro s' s h; simp [MonoRes]; exact h

theorem Mono.fail {α} (e : Err) : Mono (fail e : P α) := by
  intro s' s h; simp [MonoRes]

theorem Mono.bind {α β} {p : P α} {f : α → P β} (hp : Mono p) (hf : ∀ a, Mono (f a)) :
    Mono (p >>= f) := by
  intro s' s h
  have h1 := hp s' s h
  simp only [bind_run]
  cases hps' : p s' with
  | error e =>
    rw [hps'] at h1
    exact h1.imp_right fun ⟨e', he'⟩ => ⟨e', by rw [he']⟩
  | ok v =>
    rw [hps'] at h1
    obtain ⟨r, hr, hpre⟩ := h1
    rw [hr]
    exact hf v.1 v.2 r hpre

theorem mono_readBit (name) : Mono (readBit name) := by
  intro s' s ⟨hfin, t, ht⟩
  unfold readBit
  cases hb : s'.bits with
  | nil => simp [hfin, Err.isWouldBlock, MonoRes]
  | cons b bs =>
    simp only [hb, List.cons_append] at ht
    simp only [ht, MonoRes]
    exact ⟨_, rfl, hfin, t, rfl⟩

theorem mono_unaryGo (name) (fin : IoKind) (bits' t : List Bool) (acc : Nat) :
    MonoRes (unaryGo name fin (bits' ++ t) acc) (unaryGo name .wouldBlock bits' acc) := by
  induction bits' generalizing acc with
  | nil => simp [unaryGo, Err.isWouldBlock, MonoRes]
  | cons b bs ih =>
    cases b with
    | true => simp only [unaryGo, List.cons_append, MonoRes]; exact ⟨_, rfl, rfl, t, rfl⟩
    | false => simpa [unaryGo] using ih (acc + 1)

theorem mono_readUnary1 (name) : Mono (readUnary1 name) := by
  intro s' s ⟨hfin, t, ht⟩
  unfold readUnary1
  rw [hfin, ht]
  exact mono_unaryGo name s.fin s'.bits t 0

theorem any_append_false {l t : List Bool} (h : (l ++ t).any id = false) : l.any id = false := by
  simp only [List.any_append, Bool.or_eq_false_iff] at h; exact h.1

theorem any_append_true {l : List Bool} (t : List Bool) (h : l.any id = true) : (l ++ t).any id = true := by
  simp [List.any_append, h]

/-- `has_more_rbsp_data` on a partial NAL: `true` only if the 1 bit is already there, otherwise it blocks -/
theorem mono_hasMore (name) : Mono (hasMore name) := by
  intro s' s ⟨hfin, t, ht⟩
  unfold hasMore
  rw [ht, hfin]
  cases s'.bits with
  | nil => simp [MonoRes, Err.isWouldBlock]
  | cons b rest =>
    simp only [List.cons_append]
    cases ha : rest.any id
    · simp [MonoRes, Err.isWouldBlock]
    · simp only [any_append_true t ha, ↓reduceIte, MonoRes]
      exact ⟨_, rfl, hfin, t, ht⟩

/-- `finish_rbsp` never succeeds on a partial NAL: it needs to see the real end -/
theorem mono_finishRbsp : Mono finishRbsp := by
  intro s' s ⟨hfin, t, ht⟩
  unfold finishRbsp
  rw [ht, hfin]
  cases s'.bits with
  | nil => simp [MonoRes, Err.isWouldBlock]
  | cons b rest =>
    simp only [List.cons_append]
    cases ha : rest.any id <;> cases b <;> simp [MonoRes, Err.isWouldBlock, any_append_true t, ha]

def monoProp : ClosedProp where
  holds := Mono
  pure := Mono.pure
  bind := Mono.bind
  fail e _ := Mono.fail e
  readBit := mono_readBit
  readUnary1 := mono_readUnary1
  hasMore := mono_hasMore
  finishRbsp := mono_finishRbsp

theorem mono_readBits (name) (n) : Mono (readBits name n) := closed_readBits monoProp name n

#print axioms mono_hasMore
end Bits
