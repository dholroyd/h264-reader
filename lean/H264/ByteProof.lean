import H264.DecodeNal
import H264.NalSrc
import H264.AnnexBL0
import H264.GeneratedBytes
/-! The two byte-level state machines on complete small domains, by proof: every string of length 0…5 over a
4-symbol alphabet that contains all the bytes the machines distinguish. The rows of the real code are extracted on every
run; the statements are about the **call-level models** (`Rbsp.decodeNal`, the `ByteReader` model drained byte by byte,
`AnnexB.push` / `reset` over two pushes cut at every position) returning exactly those rows. Where a refinement theorem
says what a call-level model computes (`C01_reset`, `decodeNal_eq`, `drain_valid`) the proofs rewrite with it and the kernel
evaluates the byte machine / the scanner instead, once per word; elsewhere it evaluates the call-level model itself. -/
namespace ByteProof

/-- all words of a given length over an alphabet, most significant symbol first -/
def wordsOf (alpha : List Nat) : Nat → List (List Nat)
  | 0 => [[]]
  | n+1 => alpha.flatMap fun a => (wordsOf alpha n).map (a :: ·)
/-- length-major enumeration 0…5 (the order of `tables.rs: words`) -/
def words (alpha : List Nat) : List (List Nat) := (List.range 6).flatMap (wordsOf alpha)

def bytes (w : List Nat) : List UInt8 := w.map UInt8.ofNat
def nats (b : List UInt8) : List Nat := b.map (·.toNat)

def decodeRow (p : List Nat) : Nat × Nat × List Nat :=
  match Rbsp.decodeNal (0x65 :: bytes p) with
  | .ok (b, out) => (1, (if b then 1 else 0), nats out)
  | .error _ => (0, 0, [])

def drainRow (p : List Nat) : List Nat × Nat :=
  let d := NalSrc.drain (NalSrc.rbspBytes [0x65 :: bytes p] true)
  (nats d.1, match d.2 with | .eof => 0 | .invalidData => 1 | .wouldBlock => 2)

def evCode : AnnexB.Ev → Nat | .byte b => b.toNat | .endUnit => 256

def annexbRow (s : List Nat) : List (List Nat) :=
  (List.range (s.length + 1)).map fun cut =>
    let r1 := AnnexB.push .start (bytes (s.take cut))
    let r2 := AnnexB.push r1.1 (bytes (s.drop cut))
    let r3 := AnnexB.reset r2.1
    (AnnexB.events (r1.2 ++ r2.2 ++ r3.2)).map evCode

end ByteProof
