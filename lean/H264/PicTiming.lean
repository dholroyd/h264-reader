import H264.Sps
import H264.Codes
/-! C11: the pic_timing payload parser (post-fix D7, D8) and its Annex D encoder; buffering_period and T.35 are in `SeiPayloads` -/
namespace SeiPayload
open Bits Sps

inductive SecMinHour | none | s (s : Nat) | sm (s m : Nat) | smh (s m h : Nat)
deriving DecidableEq, Repr

structure ClockTimestamp where
  ctType : Nat
  nuitFieldBasedFlag : Bool
  countingType : Nat
  discontinuityFlag : Bool
  cntDroppedFlag : Bool
  nFrames : Nat
  smh : SecMinHour
  timeOffset : Option Int
deriving DecidableEq, Repr

/-- the public accessors `SecMinHour::seconds / minutes / hours`: the coded part, 0 for a part that is not coded -/
def SecMinHour.seconds : SecMinHour → Nat | .none => 0 | .s x => x | .sm x _ => x | .smh x _ _ => x
def SecMinHour.minutes : SecMinHour → Nat | .none => 0 | .s _ => 0 | .sm _ y => y | .smh _ y _ => y
def SecMinHour.hours : SecMinHour → Nat | .none => 0 | .s _ => 0 | .sm _ _ => 0 | .smh _ _ z => z

structure PicStruct where
  picStruct : Nat
  clockTimestamps : List (Option ClockTimestamp)
deriving DecidableEq, Repr

structure PicTiming where
  delays : Option (Nat × Nat)
  picStruct : Option PicStruct
deriving DecidableEq, Repr

/-- Table D-1: NumClockTS -/
def numClockTs : Nat → Nat
  | 0 | 1 | 2 => 1
  | 3 | 4 | 7 => 2
  | 5 | 6 | 8 => 3
  | _ => 0

/-- two's-complement value of an `n`-bit field (the `i(v)` descriptor) -/
def signExtend (n v : Nat) : Int := if v < 2^(n-1) then (v : Int) else (v : Int) - 2^n
def toTwos (n : Nat) (i : Int) : Nat := (if i ≥ 0 then i else i + 2^n).toNat

/-- which HRD supplies the delay widths / time_offset_length (NAL first, then VCL) -/
def delayHrd (s : Sps.Sps) : Option Hrd :=
  match s.vui with
  | none => none
  | some v => match v.nalHrd with
    | some h => some h
    | none => v.vclHrd

def timeOffsetLength (s : Sps.Sps) : Nat :=
  match delayHrd s with
  | some h => h.timeOffsetLength
  | none => 24

def readSmh (full : Bool) : P SecMinHour :=
  if full then do
    let sec ← readBits "seconds_value" 6
    let min ← readBits "minutes_value" 6
    let hr ← readBits "hours_value" 5
    pure (SecMinHour.smh sec min hr)
  else do
    let sf ← readBool "seconds_flag"
    if sf then do
      let sec ← readBits "seconds_value" 6
      let mf ← readBool "minutes_flag"
      if mf then do
        let min ← readBits "minutes_value" 6
        let hf ← readBool "hours_flag"
        if hf then do
          let hr ← readBits "hours_value" 5
          pure (SecMinHour.smh sec min hr)
        else pure (SecMinHour.sm sec min)
      else pure (SecMinHour.s sec)
    else pure SecMinHour.none

def readTimeOffset (tol : Nat) : P (Option Int) :=
  if tol = 0 then pure none else do
    let v ← readBits "time_offset_length" tol
    pure (some (signExtend tol v))

def readClockTimestamp (s : Sps.Sps) : P ClockTimestamp := do
  let ct ← readBits "ct_type" 2
  let nuit ← readBool "nuit_field_based_flag"
  let counting ← readBits "counting_type" 5
  let full ← readBool "full_timestamp_flag"
  let disc ← readBool "discontinuity_flag"
  let dropped ← readBool "cnt_dropped_flag"
  let nFrames ← readBits "n_frames" 8
  let smh ← readSmh full
  let off ← readTimeOffset (timeOffsetLength s)
  pure ⟨ct, nuit, counting, disc, dropped, nFrames, smh, off⟩

def readOptClockTimestamp (s : Sps.Sps) : P (Option ClockTimestamp) := do
  let f ← readBool "clock_timestamp_flag"
  if f then do
    let c ← readClockTimestamp s
    pure (some c)
  else pure none

def readClockTimestamps (s : Sps.Sps) : Nat → P (List (Option ClockTimestamp))
  | 0 => pure []
  | n+1 => do
    let c ← readOptClockTimestamp s
    let rest ← readClockTimestamps s n
    pure (c :: rest)

def readDelays (s : Sps.Sps) : P (Option (Nat × Nat)) :=
  match delayHrd s with
  | some h => do
      let c ← readBits "cpb_removal_delay" (h.cpbRemovalDelayLengthMinus1 + 1)
      let d ← readBits "dpb_output_delay" (h.dpbOutputDelayLengthMinus1 + 1)
      pure (some (c, d))
  | none => pure none

def picStructPresent (s : Sps.Sps) : Bool :=
  match s.vui with
  | some v => v.picStructPresentFlag
  | none => false

def readPicStruct (s : Sps.Sps) : P (Option PicStruct) :=
  if picStructPresent s then do
    let p ← readBits "pic_struct" 4
    let cts ← readClockTimestamps s (numClockTs p)
    pure (some ⟨p, cts⟩)
  else pure none

def readPicTiming (s : Sps.Sps) : P PicTiming := do
  let delays ← readDelays s
  let ps ← readPicStruct s
  finishSei
  pure ⟨delays, ps⟩

/-! ### D.1.2 as an encoder -/

def SecMinHour.WF (full : Bool) : SecMinHour → Prop
  | .smh sec min hr => sec < 64 ∧ min < 64 ∧ hr < 32
  | .sm sec min => full = false ∧ sec < 64 ∧ min < 64
  | .s sec => full = false ∧ sec < 64
  | SecMinHour.none => full = false

def encSmh (full : Bool) : SecMinHour → List Bool
  | .smh s m h => if full then encBits 6 s ++ encBits 6 m ++ encBits 5 h
                  else encBool true ++ encBits 6 s ++ encBool true ++ encBits 6 m ++ encBool true ++ encBits 5 h
  | .sm s m => encBool true ++ encBits 6 s ++ encBool true ++ encBits 6 m ++ encBool false
  | .s s => encBool true ++ encBits 6 s ++ encBool false
  | .none => encBool false

/-- `full` = full_timestamp_flag as coded (only meaningful for `smh`) -/
def encClockTimestamp (tol : Nat) (c : ClockTimestamp) (full : Bool) : List Bool :=
  encBits 2 c.ctType ++ encBool c.nuitFieldBasedFlag ++ encBits 5 c.countingType ++ encBool full ++
  encBool c.discontinuityFlag ++ encBool c.cntDroppedFlag ++ encBits 8 c.nFrames ++ encSmh full c.smh ++
  (match c.timeOffset with | some o => encBits tol (toTwos tol o) | none => [])

theorem signExtend_toTwos (n : Nat) (i : Int) (hn : 1 ≤ n) (h : -(2^(n-1) : Int) ≤ i ∧ i < 2^(n-1)) :
    signExtend n (toTwos n i) = i ∧ toTwos n i < 2^n := by
  obtain ⟨m, rfl⟩ : ∃ m, n = m + 1 := ⟨n - 1, by omega⟩
  simp only [signExtend, toTwos, Nat.add_sub_cancel] at h ⊢
  -- `omega` reads `2^(m+1)` as `2 * 2^m`, so all is linear in `2^m`, once the cast of the `Nat` power is the `Int` one
  have hP : ((2 ^ m : Nat) : Int) = 2 ^ m := by norm_cast
  split <;> split <;> omega

theorem readSmh_enc (full : Bool) (x : SecMinHour) (wf : x.WF full) (rest fin) :
    readSmh full ⟨encSmh full x ++ rest, fin⟩ = .ok (x, ⟨rest, fin⟩) := by
  cases x with
  | smh a b c => cases full <;> simp [readSmh, encSmh, readBits_enc, wf.1, wf.2.1, wf.2.2]
  | sm a b => obtain ⟨rfl, h1, h2⟩ := wf; simp [readSmh, encSmh, readBits_enc, h1, h2]
  | s a => obtain ⟨rfl, h1⟩ := wf; simp [readSmh, encSmh, readBits_enc, h1]
  | none => obtain rfl : full = false := wf; simp [readSmh, encSmh]

/-- time_offset: absent iff time_offset_length = 0, otherwise any value of the `tol`-bit two's-complement range -/
def TimeOffsetWF (tol : Nat) : Option Int → Prop
  | none => tol = 0
  | some o => 1 ≤ tol ∧ -(2^(tol-1) : Int) ≤ o ∧ o < 2^(tol-1)

def encTimeOffset (tol : Nat) : Option Int → List Bool
  | some o => encBits tol (toTwos tol o)
  | none => []

theorem readTimeOffset_enc (tol : Nat) (o : Option Int) (wf : TimeOffsetWF tol o) (rest fin) :
    readTimeOffset tol ⟨encTimeOffset tol o ++ rest, fin⟩ = .ok (o, ⟨rest, fin⟩) := by
  cases o with
  | none => obtain rfl : tol = 0 := wf; simp [readTimeOffset, encTimeOffset]
  | some v =>
    obtain ⟨r1, r2⟩ := signExtend_toTwos tol v wf.1 wf.2
    simp [readTimeOffset, encTimeOffset, Nat.ne_of_gt wf.1, readBits_enc, r1, r2]

#print axioms readTimeOffset_enc
end SeiPayload
