import H264.TblProof
/-! theorems of `TblProof` that belong to C06 (one module per property: DESIGN.md 14.7) -/
namespace TblProof


theorem sliceType_model_eq_code : ∀ t : Fin 64, sliceTypeCode t.val = Generated.sliceType.getD t.val (9, 9, 9) := by
  decide +kernel

end TblProof
