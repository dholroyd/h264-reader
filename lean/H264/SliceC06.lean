import H264.SliceCodes
/-! C06 — the whole slice header. `parseSliceHeader_iff`: the parser accepts exactly the codings of the well-formed
headers, read against the parameter sets of the context, in front of slice data (up to the two many-to-one spots:
`alt`, the coding of an empty modification list, and `x`, the coded values that are not kept). `C06_forward` is its
right-to-left direction on the standard coding; the left-to-right statements are in `SliceConverse.lean`. -/
namespace Slice
open Bits Sps

/-- The part of the header behind the activation of the parameter sets, run after the three elements in front of it,
whose conditions, which `SliceWF` holds too, are hypotheses. A run is every element with its condition, in program
order, the header built from them, and slice data to follow. -/
theorem readSliceBody_after {sps : Sps.Sps} {pps : Pps.Pps} {hdr : NalHdr} {firstMb st ppsId : Nat} (umb : Ue firstMb)
    (hst : st ≤ 9) (hid : ppsId ≤ 255) (s0 : Src) (h : SliceHeader) (sid pid : Nat) (s' : Src) :
    After (readSliceBody sps pps hdr firstMb st ppsId) s0 (encUe firstMb ++ encUe st ++ encUe ppsId) ((h, sid, pid), s') ↔
      ∃ x alt, SliceWF sps { pps with ppsId := ppsId } hdr h x ∧ h.firstMbInSlice = firstMb ∧ h.sliceTypeId = st ∧
        sid = pps.spsId ∧ pid = ppsId ∧ s0.Consumes s' (encSliceHeaderAlt sps pps hdr h x ppsId alt) ∧
        (s'.bits.drop 1).any id = true := by
  simp only [readSliceBody, parse_hyp, (readColourPlane_codes _ h).after_bind_hyp, (readFieldPic_codes _ h).after_bind_hyp,
    (readIdrPicId_codes _ h).after_bind_hyp, (readPoc_codes _ _ h _).after_bind_hyp,
    (readRedundant_codes _ h).after_bind_hyp, (readDirect_codes _ h).after_bind_hyp,
    (readNumRefIdxActive_codes _ h).after_bind_hyp, (readRefPicListMods_parses _).after_bind,
    (readPwtOpt_codes _ _ _ h _).after_bind_hyp, (readMarkingOpt_codes _ h).after_bind_hyp,
    (readCabac_codes _ _ h).after_bind_hyp, readQpDelta_codes.after_bind_hyp, (readSwitchQs_parses _ _ h).after_bind,
    (readDeblock_parses _ h).after_bind, Prod.exists, after_requireMore]
  -- Once `h` is known to be the header built, `{ h with field := v }` is `h`; the strings consumed, in order, are
  -- `encSliceHeaderAlt` as it is defined.
  constructor
  · rintro ⟨cp, wcp, fn, wfn, fp, wfp, idr, widr, poc, wpoc, red, wred, dir, wdir, nra, wnra, n20, mods, _,
      ⟨wmods, alt, rfl⟩, pwt, wpwt, mark, wmark, cabac, wcabac, qp, wqp, sw, qs, _, ⟨xq, wqs, rfl⟩, db, _,
      ⟨xd, wdb, rfl⟩, ⟨⟩, c, more⟩
    -- the two elements with discarded values look at disjoint fields of `x`
    exact ⟨⟨xq.sliceQsDelta, xd.alpha, xd.beta, false⟩, alt,
      { firstMb := umb, sliceType := hst, ppsId := hid, nalType := by omega, colourPlane := wcp, frameNum := wfn,
        fieldPic := wfp, idr := widr, poc := wpoc, redundant := wred, direct := wdir, nra := wnra, mods := wmods,
        pwt := wpwt, marking := wmark, cabac := wcabac, qp := wqp, qs := wqs, deblock := wdb },
      rfl, rfl, rfl, rfl, c, more⟩
  · rintro ⟨x, alt, wf, rfl, rfl, rfl, rfl, c, more⟩
    exact ⟨_, wf.colourPlane, _, wf.frameNum, _, wf.fieldPic, _, wf.idr, _, wf.poc, _, wf.redundant, _, wf.direct,
      _, wf.nra, by have := wf.nalType; omega, _, _, ⟨wf.mods, alt, rfl⟩, _, wf.pwt, _, wf.marking, _, wf.cabac,
      _, wf.qp, _, _, _, ⟨x, wf.qs, rfl⟩, _, _, ⟨x, wf.deblock, rfl⟩, rfl, c, more⟩

/-- `SliceWF` looks at `pps.ppsId` only to bound it, so it is stated of the PPS with the key `pid`, under which the
context holds it, in place of whatever id it carries: the conditions on the header then need not assume the two
equal. -/
theorem parseSliceHeader_iff (ctx : Ctx) (hdr : NalHdr) (s s' : Src) (h : SliceHeader) (sid pid : Nat) :
    parseSliceHeader ctx hdr s = .ok ((h, sid, pid), s') ↔
      ∃ pps sps x alt, ctx.pps pid = some pps ∧ pps.spsId = sid ∧ ctx.sps sid = some sps ∧
        SliceWF sps { pps with ppsId := pid } hdr h x ∧
        s.Consumes s' (encSliceHeaderAlt sps pps hdr h x pid alt) ∧ (s'.bits.drop 1).any id = true := by
  rw [after_start, parseSliceHeader]
  simp only [parse_hyp, List.nil_append]
  constructor
  · rintro ⟨firstMb, umb, st, -, h9, ppsId, -, h255, hok⟩
    cases hpps : ctx.pps ppsId with
    | none => simp only [hpps, after_fail] at hok
    | some pps =>
    cases hsps : ctx.sps pps.spsId with
    | none => simp only [hpps, hsps, after_fail] at hok
    | some sps =>
    simp only [hpps, hsps] at hok
    obtain ⟨x, alt, wf, -, -, rfl, rfl, c, more⟩ := (readSliceBody_after umb (by omega) (by omega) ..).1 hok
    exact ⟨pps, sps, x, alt, hpps, rfl, hsps, wf, c, more⟩
  · rintro ⟨pps, sps, x, alt, hpps, rfl, hsps, wf, c, more⟩
    have h9 := wf.sliceType
    have h255 : pid ≤ 255 := wf.ppsId
    refine ⟨h.firstMbInSlice, wf.firstMb, h.sliceTypeId, by omega, by omega, pid, by omega, by omega, ?_⟩
    simp only [hpps, hsps]
    exact (readSliceBody_after wf.firstMb h9 h255 ..).2 ⟨x, alt, wf, rfl, rfl, rfl, rfl, c, more⟩

/-- sanity: with the short coding of empty modification lists and the PPS's own id, `encSliceHeaderAlt` is the
encoder of `C06_forward` -/
theorem encSliceHeaderAlt_std (sps : Sps.Sps) (pps : Pps.Pps) (hdr : NalHdr) (h : SliceHeader) (x : Extra) :
    encSliceHeaderAlt sps pps hdr h x pps.ppsId ⟨false, false⟩ = encSliceHeader sps pps hdr h x := by
  unfold encSliceHeaderAlt encSliceHeader
  rw [encRefPicListModsAlt_false]

/-- **C06 (forward)**: for every conforming slice header of NAL types 1/5 (any `nal_ref_idc`, any slice type
except B with explicit weighted prediction, which `PwtWF` excludes), with its PPS and SPS in the context, the
parser returns every field equal to the encoded value, the ids of the activated parameter sets, and a reader
positioned on the first bit of the slice data. -/
theorem C06_forward (ctx : Ctx) (sps : Sps.Sps) (pps : Pps.Pps) (hdr : NalHdr) (h : SliceHeader) (x : Extra)
    (hpps : ctx.pps pps.ppsId = some pps) (hsps : ctx.sps pps.spsId = some sps)
    (wf : SliceWF sps pps hdr h x) (d : Bool) (data : List Bool) (z : Nat) :
    parseSliceHeader ctx hdr ⟨encSliceHeader sps pps hdr h x ++ d :: (data ++ trailing z), .eof⟩
      = .ok ((h, pps.spsId, pps.ppsId), ⟨d :: (data ++ trailing z), .eof⟩) := by
  rw [parseSliceHeader_iff]
  refine ⟨pps, sps, x, ⟨false, false⟩, hpps, rfl, hsps, wf, ?_, by simp [trailing]⟩
  rw [encSliceHeaderAlt_std]
  exact Src.consumes_mk _ _ _

#print axioms C06_forward
end Slice
