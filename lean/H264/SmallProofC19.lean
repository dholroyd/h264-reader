import H264.SmallProof
namespace SmallProof
/-- model `Ctx.put / get / entries` = real `Context` on every sequence of up to three SPS insertions (ids 0, 1, 31 × two tags):
lookups and iteration -/
theorem ctx_model_eq_code : (allSeqs 6).map ctxRow = Generated.ctxRows :=
  eq_of_beq (by decide +kernel)
end SmallProof
