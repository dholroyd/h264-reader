import H264.Rbsp
namespace Rbsp

def okAfter03 : List UInt8 → Bool
  | [] => true
  | d :: _ => decide (d ≤ 3)

/-- declarative emulation-prevention removal over 3-byte windows:
`00 00 03` drops the `03` (which must be followed by a byte ≤ 3 or by the end), `00 00 00` is invalid,
everything else is data -/
def unesc : List UInt8 → List UInt8 × Bool
  | a :: b :: c :: rest =>
      if a = 0 ∧ b = 0 ∧ c = 3 then
        if okAfter03 rest then let r := unesc rest; (0 :: 0 :: r.1, r.2) else ([0, 0], false)
      else if a = 0 ∧ b = 0 ∧ c = 0 then ([0, 0], false)
      else let r := unesc (b :: c :: rest); (a :: r.1, r.2)
  | l => (l, true)
termination_by l => l.length

/-- escaping: insert `03` before a byte ≤ 3 that follows two zeros, and after a trailing `00 00` -/
def escapeGo : Nat → List UInt8 → List UInt8
  | z, [] => if z ≥ 2 then [3] else []
  | z, b :: bs =>
      if z ≥ 2 ∧ b ≤ 3 then 3 :: b :: escapeGo (if b = 0 then 1 else 0) bs
      else b :: escapeGo (if b = 0 then z + 1 else 0) bs

def escape (p : List UInt8) : List UInt8 := escapeGo 0 p

def cons0 (r : List UInt8 × Bool) : List UInt8 × Bool := (0 :: r.1, r.2)

theorem unesc_cons_nz (a : UInt8) (l : List UInt8) (h : a ≠ 0) :
    unesc (a :: l) = (a :: (unesc l).1, (unesc l).2) := by
  match l with
  | [] => simp [unesc]
  | [b] => simp [unesc]
  | b :: c :: rest => rw [unesc]; simp [h]

theorem unesc_0_nz (b : UInt8) (l : List UInt8) (h : b ≠ 0) :
    unesc (0 :: b :: l) = cons0 (unesc (b :: l)) := by
  match l with
  | [] => simp [unesc, cons0]
  | c :: rest => rw [unesc]; simp [h, cons0]

theorem unesc_00_o (b : UInt8) (l : List UInt8) (h0 : b ≠ 0) (h3 : b ≠ 3) :
    unesc (0 :: 0 :: b :: l) = cons0 (unesc (0 :: b :: l)) := by
  rw [unesc]; simp [h0, h3, cons0]

theorem unesc_00_0 (l : List UInt8) : unesc (0 :: 0 :: 0 :: l) = ([0, 0], false) := by
  rw [unesc]; simp

theorem unesc_00_3 (l : List UInt8) :
    unesc (0 :: 0 :: 3 :: l) =
      if okAfter03 l then (0 :: 0 :: (unesc l).1, (unesc l).2) else ([0, 0], false) := by
  rw [unesc]; simp

/-- the window function against the scanner, one equation per state that can follow an emitted byte
(`cons0` puts back the zeros the state stands for; after `postThree` the byte behind the `03` is still to be checked:
`okAfter03`) -/
theorem unesc_window (xs : List UInt8) :
    unesc xs = unescFrom .start xs ∧
    unesc (0 :: xs) = cons0 (unescFrom .oneZero xs) ∧
    unesc (0 :: 0 :: xs) = cons0 (cons0 (unescFrom .twoZero xs)) ∧
    (if okAfter03 xs then unesc xs else ([], false)) = unescFrom .postThree xs := by
  induction xs with
  | nil => simp [unesc, unescFrom, cons0, okAfter03]
  | cons b bs ih =>
    obtain ⟨iA, iB, iC, iD⟩ := ih
    by_cases hb0 : b = 0
    · subst hb0
      refine ⟨?_, ?_, ?_, ?_⟩
      · rw [iB]; simp [unescFrom, cons0]
      · rw [iC]; simp [unescFrom, cons0]
      · rw [unesc_00_0]; simp [unescFrom, cons0]
      · rw [iB]; simp [unescFrom, cons0, okAfter03]
    · have hA : unesc (b :: bs) = (b :: (unescFrom .start bs).1, (unescFrom .start bs).2) := by
        rw [unesc_cons_nz _ _ hb0, iA]
      refine ⟨?_, ?_, ?_, ?_⟩
      · rw [hA]; simp [unescFrom, hb0]
      · rw [unesc_0_nz _ _ hb0, hA]; simp [unescFrom, hb0, cons0]
      · by_cases hb3 : b = 3
        · subst hb3
          rw [unesc_00_3, show unescFrom .twoZero (3 :: bs) = unescFrom .postThree bs by simp [unescFrom], ← iD]
          split <;> simp [cons0]
        · rw [unesc_00_o _ _ hb0 hb3, unesc_0_nz _ _ hb0, hA]
          simp [unescFrom, hb0, hb3, cons0]
      · by_cases hd3 : b ≤ 3
        · rw [hA]; simp [okAfter03, hd3, unescFrom, hb0]
        · simp [okAfter03, hd3, unescFrom, hb0]

theorem unesc_spec_aux (n : Nat) : ∀ xs : List UInt8, xs.length ≤ n →
    unesc xs = unescFrom .start xs ∧
    unesc (0 :: xs) = cons0 (unescFrom .oneZero xs) ∧
    unesc (0 :: 0 :: xs) = cons0 (cons0 (unescFrom .twoZero xs)) :=
  fun xs _ => ⟨(unesc_window xs).1, (unesc_window xs).2.1, (unesc_window xs).2.2.1⟩

/-- the scanner's state-machine semantics is the declarative window semantics -/
theorem unescFrom_start_eq (xs : List UInt8) : unescFrom .start xs = unesc xs :=
  (unesc_window xs).1.symm

def stOf : Nat → PS
  | 0 => .start
  | 1 => .oneZero
  | _ => .twoZero

theorem unesc_escapeGo (p : List UInt8) (z : Nat) (hz : z ≤ 2) :
    unescFrom (stOf z) (escapeGo z p) = (p, true) := by
  induction p generalizing z with
  | nil =>
    match z, hz with
    | 0, _ | 1, _ | 2, _ => simp [escapeGo, stOf, unescFrom]
  | cons b bs ih =>
    have h0 : unescFrom .start (escapeGo 0 bs) = (bs, true) := ih 0 (by omega)
    have h1 : unescFrom .oneZero (escapeGo 1 bs) = (bs, true) := ih 1 (by omega)
    have h2 : unescFrom .twoZero (escapeGo 2 bs) = (bs, true) := ih 2 (by omega)
    by_cases hb0 : b = 0
    · subst hb0
      match z, hz with
      | 0, _ | 1, _ | 2, _ => simp [escapeGo, stOf, unescFrom, h1, h2]
    · match z, hz with
      | 0, _ | 1, _ => simp [escapeGo, stOf, unescFrom, hb0, h0]
      | 2, _ =>
        by_cases hb3 : b ≤ 3
        · simp [escapeGo, stOf, unescFrom, hb0, hb3, h0]
        · have hne3 : b ≠ 3 := by intro h; subst h; exact hb3 (by decide)
          simp [escapeGo, stOf, unescFrom, hb0, hb3, hne3, h0]

/-- C02, algebraic core: un-escaping the escaped form of *any* payload returns that payload -/
theorem unesc_escape (p : List UInt8) : unesc (escape p) = (p, true) := by
  rw [← unescFrom_start_eq]; exact unesc_escapeGo p 0 (by omega)

#print axioms unesc_escape
end Rbsp
