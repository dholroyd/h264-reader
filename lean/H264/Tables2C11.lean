import H264.Tables2
/-! theorems of `Tables2` that belong to C11 (one module per property: DESIGN.md 14.7) -/
namespace Tables2
open Generated

/-- Table D-1: every 4-bit pic_struct is accepted as its own distinct value, and the number of clock-timestamp
slots the parser reads is the model's / the standard's NumClockTS -/
theorem picStruct_table : picStruct.length = 16 ∧
    (∀ p : Fin 16, (picStruct.getD p.val (0,0,0)).1 = 1 ∧
      (picStruct.getD p.val (0,0,0)).2.2 = SeiPayload.numClockTs p.val) ∧
    (∀ i j : Fin 16, (picStruct.getD i.val (0,0,0)).2.1 = (picStruct.getD j.val (0,0,0)).2.1 → i = j) := by
  decide +kernel

end Tables2
