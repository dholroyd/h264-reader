import H264.BitsProofRows
/-! theorems of `BitsProof` that belong to C14 (one module per property: DESIGN.md 14.7) -/
namespace BitsProof
open Bits

theorem bits_end_model_eq_code : ∀ b0 : Fin 256, ∀ j : Fin 24,
    endRow b0.val j.val = (Generated.bitsEnd.getD b0.val []).getD j.val (9, 9, 9) :=
  getD_getD_of_map_range (f := endRow) (by
    rw [rows_split endRow (fun s =>
      ((match hasMore "f" s with | .ok (true, _) => 1 | .ok (false, _) => 0 | .error _ => 9),
       (match finishRbsp s with | .ok _ => 1 | .error e => errCode e),
       (match finishSei s with | .ok _ => 1 | .error e => errCode e))) fun _ _ => rfl]
    decide +kernel) _

end BitsProof
