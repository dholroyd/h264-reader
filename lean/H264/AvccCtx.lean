import H264.Avcc
import H264.NalSrc
import H264.Sps
import H264.Pps
import H264.Context
/-! `AvcDecoderConfigurationRecord`: fixed-field accessors and `create_context` (lazy iteration: each parameter
set is parsed before the next entry is looked at) -/
namespace Avcc

structure Fields where
  version : Nat
  numSps : Nat
  profile : Nat
  compat : Nat
  level : Nat
  lengthSizeMinusOne : Nat
deriving DecidableEq, Repr

/-- `avc_level_indication()` is `Level::from_constraint_flags_and_level_idc(profile_compatibility, level byte)`: the
stored byte, read as Level 1b exactly when it is 11 and constraint_set3_flag is set (table proved in C20) -/
def Fields.levelIs1b (f : Fields) : Bool := f.level = 11 && f.compat / 16 % 2 = 1

/-- the accessors, each a bounds-checked index -/
def fields (d : List UInt8) : Res Fields := do
  let v ← idx d 0
  let p ← idx d 1
  let c ← idx d 2
  let l ← idx d 3
  let ls ← idx d 4
  let n ← idx d 5
  pure ⟨v, n % 32, p, c, l, ls % 4⟩

inductive CtxErr | paramSet (tag : String) | sps | pps | panic (tag : String)
deriving DecidableEq, Repr

structure Context where
  sps : Ctx.PMap Sps.Sps
  pps : Ctx.PMap Pps.Pps

def liftErr {α} : Res α → Except CtxErr α
  | .ok a => .ok a
  | .paramSetErr t => .error (.paramSet t)
  | .panic t => .error (.panic t)
  | .notEnoughData _ _ => .error (.panic "unwrap on NotEnoughData")
  | .unsupportedVersion _ => .error (.panic "unwrap on UnsupportedVersion")

def ctxSps (d : List UInt8) : Nat → Nat → Ctx.PMap Sps.Sps → Except CtxErr (Ctx.PMap Sps.Sps)
  | 0, _, m => .ok m
  | n+1, pos, m =>
    if pos ≥ d.length then .ok m else
    match liftErr (entry d 7 pos) with
    | .error e => .error e
    | .ok (nal, next) =>
      match Sps.parseSps (NalSrc.srcOfNal [nal] true) with
      | .error (.panic t) => .error (.panic t)
      | .error _ => .error .sps
      | .ok (s, _) => ctxSps d n next (Ctx.put m s.spsId s)

def ctxPps (d : List UInt8) (spsMap : Ctx.PMap Sps.Sps) : Nat → Nat → Ctx.PMap Pps.Pps → Except CtxErr (Ctx.PMap Pps.Pps)
  | 0, _, m => .ok m
  | n+1, pos, m =>
    if pos ≥ d.length then .ok m else
    match liftErr (entry d 8 pos) with
    | .error e => .error e
    | .ok (nal, next) =>
      match Pps.parsePps (Ctx.get spsMap) (NalSrc.srcOfNal [nal] true) with
      | .error (.panic t) => .error (.panic t)
      | .error _ => .error .pps
      | .ok (p, _) => ctxPps d spsMap n next (Ctx.put m p.ppsId p)

/-- `create_context` -/
def createContext (d : List UInt8) : Except CtxErr Context :=
  match liftErr (numSps d) with
  | .error e => .error e
  | .ok n =>
    match ctxSps d n 6 [] with
    | .error e => .error e
    | .ok sm =>
      match liftErr (spsEnd d) with
      | .error e => .error e
      | .ok off =>
        match liftErr (idx d off) with
        | .error e => .error e
        | .ok np =>
          match ctxPps d sm np (off + 1) [] with
          | .error e => .error e
          | .ok pm => .ok ⟨sm, pm⟩

end Avcc
