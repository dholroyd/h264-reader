import H264.Bits
/-! Exact decoders. `Parses p R`: the successful runs of the parser `p` are exactly "read some `e` with `R v e` off the
front, return `v`, leave the rest alone"; `Codes p WF enc` is the case of one bit string `enc v` per value. Forward
and converse round trips of every syntax structure, the primitives first, are the two directions of one such
statement.

Imports nothing but `Bits`, so that the modules the executables link (`PicTiming`, `PpsStd`, `SeiPayloadsFwd`) can use
it; the simp sets over its rules are in `CodesSimp.lean`. -/
namespace Bits

/-! monad laws under names of their own: with a `LawfulMonad P` instance core's simp set (`bind_assoc`,
`bind_pure_comp`) would start rewriting every parser term in the development -/
theorem bind_bind {α β γ} (p : P α) (f : α → P β) (g : β → P γ) : p >>= f >>= g = p >>= fun a => f a >>= g := by
  funext s; simp only [bind_run]; cases p s <;> rfl

theorem pure_bind' {α β} (a : α) (f : α → P β) : (pure a : P α) >>= f = f a := rfl

theorem fail_bind {α β} (e : Err) (f : α → P β) : fail e >>= f = fail e := rfl

theorem ite_bind {α β} (c : Prop) [Decidable c] (p q : P α) (f : α → P β) :
    (if c then p else q) >>= f = if c then p >>= f else q >>= f := by
  split <;> rfl

theorem pure_ok_iff {α} (a b : α) (s s' : Src) : (pure a : P α) s = .ok (b, s') ↔ a = b ∧ s = s' := by
  simp

/-- from `s` to `s'` exactly the bits `e` have been read -/
def Src.Consumes (s s' : Src) (e : List Bool) : Prop := s.bits = e ++ s'.bits ∧ s'.fin = s.fin

theorem Src.Consumes.refl (s : Src) : s.Consumes s [] := ⟨rfl, rfl⟩

theorem Src.Consumes.trans {s s1 s2 : Src} {e1 e2} (h1 : s.Consumes s1 e1) (h2 : s1.Consumes s2 e2) :
    s.Consumes s2 (e1 ++ e2) :=
  ⟨by rw [h1.1, h2.1, List.append_assoc], by rw [h2.2, h1.2]⟩

theorem Src.consumes_mk (e rest fin) : Src.Consumes ⟨e ++ rest, fin⟩ ⟨rest, fin⟩ e := ⟨rfl, rfl⟩

theorem Src.Consumes.eq {s s' : Src} {e} (h : s.Consumes s' e) : s = ⟨e ++ s'.bits, s'.fin⟩ := by
  cases s; cases h; simp_all

theorem Src.consumes_append {s0 s' : Src} {pre e} :
    s0.Consumes s' (pre ++ e) ↔ ∃ s, s0.Consumes s pre ∧ s.Consumes s' e := by
  constructor
  · intro c; exact ⟨⟨e ++ s'.bits, s'.fin⟩, ⟨by rw [c.1, List.append_assoc], c.2⟩, rfl, rfl⟩
  · rintro ⟨s, c, c'⟩; exact c.trans c'

def Parses {α} (p : P α) (R : α → List Bool → Prop) : Prop :=
  ∀ s v s', p s = .ok (v, s') ↔ ∃ e, R v e ∧ s.Consumes s' e

/-- `p` is the exact decoder of `enc` on `WF` -/
def Codes {α} (p : P α) (WF : α → Prop) (enc : α → List Bool) : Prop :=
  ∀ s v s', p s = .ok (v, s') ↔ WF v ∧ s.Consumes s' (enc v)

theorem Codes.parses {α} {p : P α} {WF enc} (h : Codes p WF enc) : Parses p fun v e => WF v ∧ e = enc v := by
  intro s v s'; rw [h]; constructor
  · rintro ⟨w, c⟩; exact ⟨_, ⟨w, rfl⟩, c⟩
  · rintro ⟨_, ⟨w, rfl⟩, c⟩; exact ⟨w, c⟩

theorem Parses.enc {α} {p : P α} {R} (h : Parses p R) {v e} (hr : R v e) (rest fin) :
    p ⟨e ++ rest, fin⟩ = .ok (v, ⟨rest, fin⟩) :=
  (h _ _ _).2 ⟨e, hr, Src.consumes_mk _ _ _⟩

theorem Codes.enc {α} {p : P α} {WF enc} (h : Codes p WF enc) {v} (wf : WF v) (rest fin) :
    p ⟨enc v ++ rest, fin⟩ = .ok (v, ⟨rest, fin⟩) :=
  (h _ _ _).2 ⟨wf, Src.consumes_mk _ _ _⟩

/-! ### runs from the middle of a source

The statement of a structure is proved by rewriting the run of its parser, bind by bind, into the values read and the
bits they were read from: `rw [after_start]`, then `simp only [parser, rules]` with the `after_*` rules below and
`.after_bind` of the sub-parsers' statements. The rules come in two forms, collected in two simp sets
(`CodesSimp.lean`).

`parse_hyp`, the `_hyp` rules: each condition in front of what follows it. The run becomes
`∃ a, WF a ∧ ∃ b, WF b ∧ … v = ⟨a, b, …⟩ ∧ consumed`, in program order; after `constructor` one `rintro` pattern takes
it apart and one anonymous constructor puts it together, without further rewriting. What is not copied from one side to
the other is what the proof is about: a count that the encoder recomputes, a range that the others imply.

`parse_iff`, the rules without suffix: the conditions behind the continuation, so that the equation `pure` ends with
comes first and a plain `simp [WF, enc, and_assoc]` on the destructured value eliminates the bound values. The two
sides are then the same conjuncts in opposite orders: `exact iff_of_eq (by ac_rfl)`. This is the shorter form, used for
the small structures; the eliminating `simp` makes it three to four times as dear to check as the first. -/

def After {α} (p : P α) (s0 : Src) (pre : List Bool) (r : α × Src) : Prop :=
  ∃ s, s0.Consumes s pre ∧ p s = .ok r

theorem after_start {α} (p : P α) (s : Src) (r) : p s = .ok r ↔ After p s [] r := by
  constructor
  · intro h; exact ⟨s, .refl s, h⟩
  · rintro ⟨s1, c, h⟩; rw [c.eq]; exact h

variable {α β : Type} {p : P α} {R : α → List Bool → Prop} {WF : α → Prop} {enc : α → List Bool}

theorem Parses.after (hp : Parses p R) (s0 pre v s') :
    After p s0 pre (v, s') ↔ ∃ e, R v e ∧ s0.Consumes s' (pre ++ e) := by
  simp only [After, hp _ _ _, Src.consumes_append]
  constructor
  · rintro ⟨s, c, e, hr, c'⟩; exact ⟨e, hr, s, c, c'⟩
  · rintro ⟨e, hr, s, c, c'⟩; exact ⟨s, c, e, hr, c'⟩

theorem Parses.after_bind (hp : Parses p R) (f : α → P β) (s0 pre r) :
    After (p >>= f) s0 pre r ↔ ∃ a e, R a e ∧ After (f a) s0 (pre ++ e) r := by
  simp only [After, bind_ok_iff, hp _ _ _, Src.consumes_append]
  constructor
  · rintro ⟨s, c, a, s1, ⟨e, hr, c'⟩, h⟩; exact ⟨a, e, hr, s1, ⟨s, c, c'⟩, h⟩
  · rintro ⟨a, e, hr, s1, ⟨s, c, c'⟩, h⟩; exact ⟨s, c, a, s1, ⟨e, hr, c'⟩, h⟩

theorem Codes.after (hp : Codes p WF enc) (s0 pre v s') :
    After p s0 pre (v, s') ↔ WF v ∧ s0.Consumes s' (pre ++ enc v) := by
  rw [hp.parses.after]; constructor
  · rintro ⟨_, ⟨w, rfl⟩, c⟩; exact ⟨w, c⟩
  · rintro ⟨w, c⟩; exact ⟨_, ⟨w, rfl⟩, c⟩

theorem Codes.after_bind (hp : Codes p WF enc) (f : α → P β) (s0 pre r) :
    After (p >>= f) s0 pre r ↔ ∃ a, After (f a) s0 (pre ++ enc a) r ∧ WF a := by
  rw [hp.parses.after_bind]; constructor
  · rintro ⟨a, _, ⟨w, rfl⟩, h⟩; exact ⟨a, h, w⟩
  · rintro ⟨a, h, w⟩; exact ⟨a, _, ⟨w, rfl⟩, h⟩

theorem after_pure (a : α) (s0 pre v s') :
    After (pure a : P α) s0 pre (v, s') ↔ v = a ∧ s0.Consumes s' pre := by
  simp only [After, pure_ok_iff]
  constructor
  · rintro ⟨s, c, rfl, rfl⟩; exact ⟨rfl, c⟩
  · rintro ⟨rfl, c⟩; exact ⟨s', c, rfl, rfl⟩

theorem after_fail (e : Err) (s0 pre) (r : α × Src) : After (fail e : P α) s0 pre r ↔ False := by
  constructor
  · rintro ⟨s, _, h⟩; simp at h
  · exact False.elim

theorem after_ite (c : Prop) [Decidable c] (p q : P α) (s0 pre r) :
    After (if c then p else q) s0 pre r ↔ if c then After p s0 pre r else After q s0 pre r := by
  split <;> rfl

theorem after_guard (c : Prop) [Decidable c] (e : Err) (p : P α) (s0 pre r) :
    After (if c then fail e else p) s0 pre r ↔ After p s0 pre r ∧ ¬ c := by
  split <;> simp [*, after_fail]

theorem after_map {β} (p : P α) (g : α → β) (s0 pre v s') :
    After (p >>= fun x => pure (g x)) s0 pre (v, s') ↔ ∃ x, v = g x ∧ After p s0 pre (x, s') := by
  simp only [After, bind_ok_iff, pure_ok_iff]
  constructor
  · rintro ⟨s, c, x, s1, h, rfl, rfl⟩; exact ⟨x, rfl, s, c, h⟩
  · rintro ⟨x, rfl, s, c, h⟩; exact ⟨s, c, x, s', h, rfl, rfl⟩

theorem Codes.list (hp : Codes p WF enc) {rd : Nat → P (List α)} (h0 : rd 0 = pure [])
    (hs : ∀ n, rd (n + 1) = p >>= fun x => rd n >>= fun xs => pure (x :: xs)) (n : Nat) :
    Codes (rd n) (fun xs => xs.length = n ∧ ∀ x ∈ xs, WF x) fun xs => (xs.map enc).flatten := by
  induction n with
  | zero =>
    intro s xs s'; rw [after_start, h0, after_pure]
    constructor
    · rintro ⟨rfl, c⟩; exact ⟨⟨rfl, nofun⟩, c⟩
    · rintro ⟨⟨hl, _⟩, c⟩; obtain rfl := List.eq_nil_of_length_eq_zero hl; exact ⟨rfl, c⟩
  | succ n ih =>
    intro s xs s'
    rw [after_start, hs]; simp only [hp.after_bind, ih.after_bind, after_pure]
    constructor
    · rintro ⟨x, ⟨ys, ⟨rfl, c⟩, rfl, wy⟩, wx⟩
      exact ⟨⟨rfl, List.forall_mem_cons.2 ⟨wx, wy⟩⟩, by simpa [List.append_assoc] using c⟩
    · rintro ⟨⟨hl, w⟩, c⟩
      obtain ⟨x, ys, rfl⟩ := List.exists_cons_of_length_eq_add_one hl
      have w := List.forall_mem_cons.1 w
      exact ⟨x, ⟨ys, ⟨rfl, by simpa [List.append_assoc] using c⟩, by simpa using hl, w.2⟩, w.1⟩

/-- the forward half of `Codes.list`, also for elements whose value `val x` keeps less than was coded (the SEI
payloads, which have forward statements only) -/
theorem counted_enc {rd : Nat → P (List α)} (h0 : rd 0 = pure [])
    (hs : ∀ n, rd (n + 1) = p >>= fun x => rd n >>= fun xs => pure (x :: xs))
    {enc : β → List Bool} {val : β → α} (xs : List β)
    (hp : ∀ x ∈ xs, ∀ rest fin, p ⟨enc x ++ rest, fin⟩ = .ok (val x, ⟨rest, fin⟩)) (rest fin) :
    rd xs.length ⟨(xs.map enc).flatten ++ rest, fin⟩ = .ok (xs.map val, ⟨rest, fin⟩) := by
  induction xs with
  | nil => rw [List.length_nil, h0]; rfl
  | cons x xs ih =>
    rw [List.length_cons, hs, List.map_cons, List.flatten_cons, List.append_assoc]
    simp only [bind_run, hp x List.mem_cons_self, ih fun y hy => hp y (List.mem_cons_of_mem x hy)]
    rfl

/-- an element that is present exactly when `c` holds; the encoder is then asked for what is there, so that `d`
never shows -/
theorem Codes.opt (hp : Codes p WF enc) (c : Prop) [Decidable c]
    (d : α) :
    Codes (if c then p >>= fun v => pure (some v) else pure none)
      (fun o => if c then ∃ v, o = some v ∧ WF v else o = none) fun o => if c then enc (o.getD d) else [] := by
  intro s o s'
  rw [after_start]
  split
  · simp only [hp.after_bind, after_pure, List.nil_append]
    constructor
    · rintro ⟨a, ⟨rfl, c⟩, w⟩; exact ⟨⟨a, rfl, w⟩, c⟩
    · rintro ⟨⟨a, rfl, w⟩, c⟩; exact ⟨a, ⟨rfl, c⟩, w⟩
  · rw [after_pure]

/-- a loop on fuel whose iteration reads the terminator and stops, or reads one more element and goes on: every
iteration takes one unit of fuel, the last one too, so it decodes exactly the lists shorter than the fuel -/
theorem Codes.loop {stop : List Bool} {loop : Nat → P (List α)} {e : Err}
    (h0 : loop 0 = fail e)
    (hnil : ∀ f s0 pre s', After (loop (f + 1)) s0 pre ([], s') ↔ s0.Consumes s' (pre ++ stop))
    (hcons : ∀ f s0 pre a as s',
      After (loop (f + 1)) s0 pre (a :: as, s') ↔ WF a ∧ After (loop f) s0 (pre ++ enc a) (as, s'))
    (fuel : Nat) :
    Codes (loop fuel) (fun xs => xs.length < fuel ∧ ∀ x ∈ xs, WF x) fun xs => (xs.map enc).flatten ++ stop := by
  induction fuel with
  | zero => intro s xs s'; simp [h0]
  | succ f ih =>
    intro s xs s'
    rw [after_start]
    rcases xs with _ | ⟨a, as⟩
    · simp [hnil]
    · simp [hcons, ih.after, and_assoc, and_left_comm]

/-- a loop that runs out of fuel exactly on the values of `size` at least the fuel, started with more fuel than there
are bits left: a value is coded in more bits than its size, so the fuel never runs out -/
theorem Codes.fuel {loop : Nat → P α} {size : α → Nat}
    (h : ∀ fuel, Codes (loop fuel) (fun v => size v < fuel ∧ WF v) enc) (hs : ∀ v, size v < (enc v).length) :
    Codes (fun s => loop (s.bits.length + 1) s) WF enc := by
  intro s v s'
  rw [h]
  constructor
  · rintro ⟨⟨-, w⟩, c⟩; exact ⟨w, c⟩
  · rintro ⟨w, c⟩
    have := hs v
    exact ⟨⟨by rw [c.1, List.length_append]; omega, w⟩, c⟩

@[simp] theorem encBits_length (n v) : (encBits n v).length = n := by
  induction n generalizing v with
  | zero => rfl
  | succ n ih => simp [encBits, ih]

/-! ### the primitives

Each is the exact decoder of its encoder; the forward (`_enc`) and converse (`_exact`) round trips are the two
directions. -/

theorem readBit_codes (nm) : Codes (readBit nm) (fun _ => True) fun b => [b] := by
  intro ⟨bits, fin⟩ b ⟨bits', fin'⟩
  cases bits <;> simp [readBit, Src.Consumes, eq_comm, and_assoc]

theorem encBits_msb (n : Nat) (b : Bool) (r : Nat) (h : r < 2^n) :
    b.toNat * 2^n + r < 2^(n+1) ∧ encBits (n+1) (b.toNat * 2^n + r) = b :: encBits n r := by
  have hp : 2^(n+1) = 2 * 2^n := Nat.pow_succ'
  cases b
  · simp [encBits, Nat.mod_eq_of_lt h, show ¬ 2^n ≤ r by omega]; omega
  · simp [encBits, Nat.add_mod_left, Nat.mod_eq_of_lt h]; omega

theorem msb_split (n v : Nat) (h : v < 2^(n+1)) : v = (decide (2^n ≤ v)).toNat * 2^n + v % 2^n := by
  have hp : 2^(n+1) = 2 * 2^n := Nat.pow_succ'
  by_cases hc : 2^n ≤ v
  · simp [hc, Nat.mod_eq_sub_mod hc, Nat.mod_eq_of_lt (show v - 2^n < 2^n by omega)]
  · simp [hc, Nat.mod_eq_of_lt (show v < 2^n by omega)]

theorem readBits_codes (nm n) : Codes (readBits nm n) (· < 2^n) (encBits n) := by
  induction n with
  | zero =>
    intro s v s'
    rw [after_start, readBits, after_pure]
    simp [encBits]
  | succ n ih =>
    intro s v s'
    rw [after_start, readBits]
    simp only [(readBit_codes nm).after_bind, ih.after_bind, after_pure, List.nil_append, and_true]
    constructor
    · rintro ⟨b, r, ⟨rfl, c⟩, hr⟩
      obtain ⟨h1, h2⟩ := encBits_msb n b r hr
      exact ⟨h1, by rw [h2]; exact c⟩
    · rintro ⟨hv, c⟩
      exact ⟨decide (2^n ≤ v), v % 2^n, ⟨msb_split n v hv, c⟩, Nat.mod_lt v (Nat.two_pow_pos n)⟩

theorem readBits_enc (name) (n v : Nat) (h : v < 2^n) (rest : List Bool) (fin) :
    readBits name n ⟨encBits n v ++ rest, fin⟩ = .ok (v, ⟨rest, fin⟩) :=
  (readBits_codes name n).enc h rest fin

/-- converse: whatever `readBits` accepts is the canonical encoding of the value it returns -/
theorem readBits_exact (name) (n : Nat) (s s' : Src) (v : Nat)
    (h : readBits name n s = .ok (v, s')) :
    v < 2^n ∧ s.bits = encBits n v ++ s'.bits ∧ s'.fin = s.fin :=
  (readBits_codes name n s v s').1 h

theorem unaryGo_enc (name fin) (n : Nat) (rest : List Bool) (acc : Nat) :
    unaryGo name fin (List.replicate n false ++ true :: rest) acc = .ok (acc + n, ⟨rest, fin⟩) := by
  induction n generalizing acc with
  | zero => simp [unaryGo]
  | succ n ih => simp [List.replicate_succ, unaryGo, ih]; omega

theorem unaryGo_exact (name fin) (bits : List Bool) (acc n : Nat) (s' : Src)
    (h : unaryGo name fin bits acc = .ok (n, s')) :
    acc ≤ n ∧ bits = List.replicate (n - acc) false ++ true :: s'.bits ∧ s'.fin = fin := by
  induction bits generalizing acc with
  | nil => simp [unaryGo] at h
  | cons b bs ih =>
    cases b with
    | true => simp [unaryGo] at h; obtain ⟨rfl, rfl⟩ := h; simp
    | false =>
      simp only [unaryGo] at h
      obtain ⟨h1, h2, h3⟩ := ih _ h
      refine ⟨by omega, ?_, h3⟩
      have : n - acc = (n - (acc + 1)) + 1 := by omega
      rw [this, List.replicate_succ, h2]; simp

theorem readUnary1_codes (nm) : Codes (readUnary1 nm) (fun _ => True) fun n => List.replicate n false ++ [true] := by
  intro s n s'
  constructor
  · intro h
    obtain ⟨-, e, f⟩ := unaryGo_exact _ _ _ _ _ _ h
    exact ⟨trivial, by simpa using e, f⟩
  · rintro ⟨-, c⟩
    rw [c.eq]
    simpa [readUnary1] using unaryGo_enc nm s'.fin n s'.bits 0

theorem readUnary1_enc (name) (n : Nat) (rest : List Bool) (fin) :
    readUnary1 name ⟨List.replicate n false ++ true :: rest, fin⟩ = .ok (n, ⟨rest, fin⟩) := by
  simpa using (readUnary1_codes name).enc (v := n) trivial rest fin

/-! `ue(v)`: `n` zeros, a one and `n` more bits `v` code `2^n - 1 + v`; the standard's encoder finds `n` as a logarithm -/

/-- the test `count > 0` in `readUe` only saves a call: zero bits are read as the value 0 -/
theorem readUe_suffix (nm) (n : Nat) :
    (if n > 0 then readBits nm n >>= fun v => pure (2^n - 1 + v) else pure 0 : P Nat) =
      readBits nm n >>= fun v => pure (2^n - 1 + v) := by
  cases n with
  | zero => rfl
  | succ n => rw [if_pos (Nat.succ_pos n)]

theorem readUe_parses (nm) :
    Parses (readUe nm) fun k e => ∃ n v, n ≤ 31 ∧ v < 2^n ∧ k = 2^n - 1 + v ∧ e = encUe' n v := by
  intro s k s'
  rw [after_start, readUe]
  simp only [(readUnary1_codes nm).after_bind, after_guard, readUe_suffix, (readBits_codes nm _).after_bind,
    after_pure, List.nil_append, and_true]
  constructor
  · rintro ⟨n, ⟨v, ⟨rfl, c⟩, hv⟩, h31⟩
    exact ⟨_, ⟨n, v, by omega, hv, rfl, rfl⟩, by simpa [encUe'] using c⟩
  · rintro ⟨_, ⟨n, v, hn, hv, rfl, rfl⟩, c⟩
    exact ⟨n, ⟨v, ⟨rfl, by simpa [encUe'] using c⟩, hv⟩, by omega⟩

theorem readUe'_enc (name) (n v : Nat) (hn : n ≤ 31) (hv : v < 2^n) (rest fin) :
    readUe name ⟨encUe' n v ++ rest, fin⟩ = .ok (2^n - 1 + v, ⟨rest, fin⟩) :=
  (readUe_parses name).enc ⟨n, v, hn, hv, rfl, rfl⟩ rest fin

theorem encUe_eq (n v : Nat) (hv : v < 2^n) : encUe (2^n - 1 + v) = encUe' n v := by
  have hpos := Nat.two_pow_pos n
  have h1 : 2^n - 1 + v + 1 = 2^n + v := by omega
  have hlog : Nat.log2 (2^n + v) = n := (Nat.log2_eq_iff (by omega)).2 ⟨by omega, by rw [Nat.pow_succ]; omega⟩
  simp only [encUe, h1, hlog, Nat.add_sub_cancel_left]

theorem ue_split (k : Nat) (h : k < 2^32 - 1) : ∃ n v, n ≤ 31 ∧ v < 2^n ∧ k = 2^n - 1 + v := by
  have h1 := Nat.log2_self_le (n := k + 1) (by omega)
  have h2 := Nat.lt_log2_self (n := k + 1)
  refine ⟨Nat.log2 (k + 1), k + 1 - 2 ^ Nat.log2 (k + 1), ?_, ?_, by omega⟩
  · apply Nat.le_of_lt_succ
    apply (Nat.pow_lt_pow_iff_right (a := 2) (by omega)).mp
    omega
  · rw [Nat.pow_succ] at h2; omega

theorem readUe_codes (nm) : Codes (readUe nm) (· < 2^32 - 1) encUe := by
  intro s k s'
  rw [readUe_parses]
  constructor
  · rintro ⟨_, ⟨n, v, hn, hv, rfl, rfl⟩, c⟩
    have : 2^n ≤ 2^31 := Nat.pow_le_pow_right (by omega) (by omega)
    exact ⟨by omega, by rw [encUe_eq n v hv]; exact c⟩
  · rintro ⟨hk, c⟩
    obtain ⟨n, v, hn, hv, rfl⟩ := ue_split k hk
    exact ⟨_, ⟨n, v, hn, hv, rfl, rfl⟩, by rw [← encUe_eq n v hv]; exact c⟩

theorem readUe_enc (name) (k : Nat) (h : k < 2^32 - 1) (rest : List Bool) (fin) :
    readUe name ⟨encUe k ++ rest, fin⟩ = .ok (k, ⟨rest, fin⟩) :=
  (readUe_codes name).enc h rest fin

/-- converse for `ue(v)`: an accepted codeword is the canonical codeword of the returned value -/
theorem readUe_exact (name) (s s' : Src) (k : Nat) (h : readUe name s = .ok (k, s')) :
    k < 2^32 - 1 ∧ s.bits = encUe k ++ s'.bits ∧ s'.fin = s.fin :=
  (readUe_codes name s k s').1 h

theorem readUeMax_codes (nm : String) (bound : Nat) (e : Err) (hb : bound < 2^32 - 1) :
    Codes (readUe nm >>= fun x => if x > bound then fail e else pure x) (· ≤ bound) encUe := by
  intro s x s'
  rw [after_start, (readUe_codes nm).after_bind]
  simp only [after_guard, after_pure, List.nil_append]
  constructor
  · rintro ⟨k, ⟨⟨rfl, c⟩, hk⟩, -⟩; exact ⟨by omega, c⟩
  · rintro ⟨hx, c⟩; exact ⟨x, ⟨⟨rfl, c⟩, by omega⟩, by omega⟩

theorem encUe_length_pos (k : Nat) : 1 ≤ (encUe k).length := by
  simp [encUe, encUe']; omega

theorem encUe_append_length_pos (k : Nat) (t : List Bool) : 1 ≤ (encUe k ++ t).length := by
  rw [List.length_append]; exact Nat.le_trans (encUe_length_pos k) (Nat.le_add_right _ _)

theorem readUe_consumes (name) (s s' : Src) (k : Nat) (h : readUe name s = .ok (k, s')) :
    s'.bits.length < s.bits.length := by
  obtain ⟨_, hb, _⟩ := readUe_exact name s s' k h
  have := encUe_length_pos k
  rw [hb, List.length_append]; omega

theorem flatten_map_length_ge {α} (f : α → List Bool) (k : Nat) (xs : List α) (h : ∀ x ∈ xs, k ≤ (f x).length) :
    k * xs.length ≤ (xs.map f).flatten.length := by
  induction xs with
  | nil => simp
  | cons x xs ih =>
    have hx := h x (by simp)
    have := ih (fun y hy => h y (by simp [hy]))
    simp only [List.map_cons, List.flatten_cons, List.length_append, List.length_cons]
    rw [Nat.mul_succ]; omega

/-- the hypothesis `hs` of `Codes.fuel` for a list of non-empty codes that a `ue(v)` closes -/
theorem length_lt_flatten {α} (f : α → List Bool) (h : ∀ x, 1 ≤ (f x).length) (k : Nat) (xs : List α) :
    xs.length < ((xs.map f).flatten ++ encUe k).length := by
  have := flatten_map_length_ge f 1 xs fun x _ => h x
  have := encUe_length_pos k
  rw [List.length_append]; omega

/-! `se(v)`: `seOfUe` and `ueOfSe` are inverse bijections between the code numbers and `SeRange` -/

theorem seOfUe_ueOfSe (v : Int) : seOfUe (ueOfSe v) = v := by
  unfold seOfUe ueOfSe
  split <;> split <;> omega

theorem ueOfSe_seOfUe (k : Nat) : ueOfSe (seOfUe k) = k := by
  unfold seOfUe ueOfSe
  split <;> split <;> omega

theorem readSe_codes (nm) : Codes (readSe nm) SeRange encSe := by
  intro s v s'
  rw [after_start, readSe]
  simp only [(readUe_codes nm).after_bind, after_pure, List.nil_append]
  constructor
  · rintro ⟨k, ⟨rfl, c⟩, hk⟩
    exact ⟨by unfold SeRange seOfUe; split <;> omega, by rw [encSe, ueOfSe_seOfUe]; exact c⟩
  · rintro ⟨⟨h1, h2⟩, c⟩
    exact ⟨ueOfSe v, ⟨(seOfUe_ueOfSe v).symm, c⟩, by unfold ueOfSe; split <;> omega⟩

theorem readSe_enc (name) (v : Int) (h : SeRange v) (rest fin) :
    readSe name ⟨encSe v ++ rest, fin⟩ = .ok (v, ⟨rest, fin⟩) :=
  (readSe_codes name).enc h rest fin

theorem readBool_codes (nm) : Codes (readBool nm) (fun _ => True) encBool := readBit_codes nm

@[simp] theorem readBool_enc (name) (b : Bool) (rest fin) :
    readBool name ⟨encBool b ++ rest, fin⟩ = .ok (b, ⟨rest, fin⟩) :=
  (readBool_codes name).enc trivial rest fin

#print axioms readUe_exact
#print axioms readSe_enc

/-! ### runs through a primitive, as rewrite rules -/

theorem after_readBits (nm n) (f : Nat → P β) (s0 pre r) :
    After (readBits nm n >>= f) s0 pre r ↔ ∃ v, After (f v) s0 (pre ++ encBits n v) r ∧ v < 2^n :=
  (readBits_codes nm n).after_bind f s0 pre r

theorem after_readUe (nm) (f : Nat → P β) (s0 pre r) :
    After (readUe nm >>= f) s0 pre r ↔ ∃ k, After (f k) s0 (pre ++ encUe k) r ∧ k < 2^32 - 1 :=
  (readUe_codes nm).after_bind f s0 pre r

theorem after_readSe (nm) (f : Int → P β) (s0 pre r) :
    After (readSe nm >>= f) s0 pre r ↔ ∃ v, After (f v) s0 (pre ++ encSe v) r ∧ SeRange v :=
  (readSe_codes nm).after_bind f s0 pre r

theorem after_readBool (nm) (f : Bool → P β) (s0 pre r) :
    After (readBool nm >>= f) s0 pre r ↔ ∃ b, After (f b) s0 (pre ++ encBool b) r := by
  simpa using (readBool_codes nm).after_bind f s0 pre r

/-! ### the same with conditions in front -/

theorem Codes.after_bind_hyp (hp : Codes p WF enc) (f : α → P β) (s0 pre r) :
    After (p >>= f) s0 pre r ↔ ∃ a, WF a ∧ After (f a) s0 (pre ++ enc a) r := by
  simp only [hp.after_bind, and_comm]

theorem after_guard_hyp (c : Prop) [Decidable c] (e : Err) (p : P α) (s0 pre r) :
    After (if c then fail e else p) s0 pre r ↔ ¬ c ∧ After p s0 pre r := by
  rw [after_guard, and_comm]

/-- for an `if` chain: alternatives for one `rintro` pattern, `.inl` / `.inr` to put a run together. Named in the
`simp only` call, with `↓after_guard_hyp`, it is tried before `after_ite` of the set. -/
theorem after_ite_cases_hyp (c : Prop) [Decidable c] (p q : P α) (s0 pre r) :
    After (if c then p else q) s0 pre r ↔ c ∧ After p s0 pre r ∨ ¬ c ∧ After q s0 pre r := by
  split <;> simp [*]

theorem after_readBits_hyp (nm n) (f : Nat → P β) (s0 pre r) :
    After (readBits nm n >>= f) s0 pre r ↔ ∃ v, v < 2^n ∧ After (f v) s0 (pre ++ encBits n v) r :=
  (readBits_codes nm n).after_bind_hyp f s0 pre r

theorem after_readUe_hyp (nm) (f : Nat → P β) (s0 pre r) :
    After (readUe nm >>= f) s0 pre r ↔ ∃ k, k < 2^32 - 1 ∧ After (f k) s0 (pre ++ encUe k) r :=
  (readUe_codes nm).after_bind_hyp f s0 pre r

theorem after_readSe_hyp (nm) (f : Int → P β) (s0 pre r) :
    After (readSe nm >>= f) s0 pre r ↔ ∃ v, SeRange v ∧ After (f v) s0 (pre ++ encSe v) r :=
  (readSe_codes nm).after_bind_hyp f s0 pre r

end Bits
