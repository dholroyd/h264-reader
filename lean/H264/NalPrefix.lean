import H264.NalSrcProofs
import H264.Mono
/-! C17, byte level: a proper prefix of a valid NAL, presented as an incomplete NAL in any chunking, gives the
parsers a truncated, would-block view of what the complete contiguous NAL gives them -/
namespace NalSrc
open Rbsp Bits

theorem prefix_view (nal : List UInt8) (hv : (unesc (nal.drop 1)).2 = true)
    (chunks' : List (List UInt8)) (hc : ∀ c ∈ chunks', c ≠ []) (t : List UInt8) (hflat : chunks'.flatten ++ t = nal)
    (hne : chunks' ≠ []) :
    (srcOfNal chunks' false).IsPrefixOf (srcOfNal [nal] true) := by
  have hp1 : 1 ≤ chunks'.flatten.length := by
    cases chunks' with
    | nil => exact absurd rfl hne
    | cons c cs =>
      have := List.length_pos_iff.mpr (hc c (by simp))
      simp; omega
  have hnal : nal ≠ [] := by
    rw [← hflat, ← List.length_pos_iff, List.length_append]; omega
  have hdrop : chunks'.flatten.drop 1 ++ t = nal.drop 1 := by
    rw [← hflat, List.drop_append_of_le_length hp1]
  have hpre := unescFrom_prefix .start (chunks'.flatten.drop 1) t
  rw [hdrop] at hpre
  simp only [unescFrom_start_eq] at hpre
  obtain ⟨pv, u, hu⟩ := hpre hv
  rw [srcOfNal_valid chunks' false hc pv, srcOfNal_single nal hnal hv]
  exact ⟨by simp, bitsOfBytes u, by rw [← hu, bitsOfBytes_append]⟩

/-- **C17**: every prefix-monotone parser, applied to the incomplete prefix in any chunking, either fails because it
would have to wait, or agrees with its outcome on the complete contiguous NAL -/
theorem partial_agrees {α} (p : P α) (hp : Mono p) (nal : List UInt8) (hv : (unesc (nal.drop 1)).2 = true)
    (chunks' : List (List UInt8)) (hc : ∀ c ∈ chunks', c ≠ []) (t : List UInt8) (hflat : chunks'.flatten ++ t = nal)
    (hne : chunks' ≠ []) :
    MonoRes (p (srcOfNal [nal] true)) (p (srcOfNal chunks' false)) :=
  hp _ _ (prefix_view nal hv chunks' hc t hflat hne)

end NalSrc
