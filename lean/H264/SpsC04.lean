import H264.SpsCodes
import H264.Trailing
/-! C04: `parseSps` succeeds exactly on the encodings of the SPS syntax followed by the RBSP trailing bits, and returns
the encoded value. Stated for every profile_idc, against the parser's own list of profiles with chroma syntax
(`hasChromaInfo`); the forward theorem C04 is the right-to-left direction where that list agrees with the standard's. -/
namespace Sps
open Bits

/-- the standard's value ranges for a whole SPS (with the coded scaling syntax `sm`) -/
def Sps.WF (v : Sps) (sm : Option ScalingSyntax) : Prop :=
  v.profileIdc < 256 ∧ v.constraintFlags < 256 ∧ v.levelIdc < 256 ∧ v.spsId ≤ 31 ∧
  v.chromaInfo.WF v.profileIdc sm ∧ v.log2MaxFrameNumMinus4 ≤ 12 ∧ v.picOrderCnt.WF ∧
  Ue v.maxNumRefFrames ∧ Ue v.picWidthInMbsMinus1 ∧ Ue v.picHeightInMapUnitsMinus1 ∧
  (match v.frameCropping with | none => True | some c => Ue c.left ∧ Ue c.right ∧ Ue c.top ∧ Ue c.bottom) ∧
  (match v.vui with | none => True | some u => u.WF v.maxNumRefFrames)

theorem Sps.WF_iff (v : Sps) (sm : Option ScalingSyntax) : v.WF sm ↔ v.WFIf (stdHasChromaInfo v.profileIdc) sm := by
  unfold Sps.WF Sps.WFIf
  cases v.frameCropping <;> cases v.vui <;> exact Iff.rfl

/-- `parseSps` is the exact decoder of the SPS syntax, with its own list of the profiles that carry the chroma part,
followed by the trailing bits; it needs the true end of the RBSP and leaves nothing behind -/
theorem parseSps_iff (s : Src) (v : Sps) (s' : Src) :
    parseSps s = .ok (v, s') ↔
      (∃ sm z, v.WFIf (hasChromaInfo v.profileIdc) sm ∧
        s.bits = encSpsIf (hasChromaInfo v.profileIdc) v sm ++ trailing z) ∧ s.fin = .eof ∧ s' = ⟨[], .eof⟩ := by
  rw [after_start]
  -- a run is: every field with its range, in program order; the value; the end of the RBSP
  simp only [parseSps, parse_hyp, (readChromaInfo_parses _).after_bind, readPicOrderCnt_codes.after_bind_hyp,
    readFrameMbsFlags_codes.after_bind_hyp, readFrameCropping_codes.after_bind_hyp, (readVui_codes _).after_bind_hyp,
    after_finishRbsp]
  constructor
  · rintro ⟨p, hp, cf, hcf, lv, hlv, id, -, hid, ci, _, ⟨sm, wci, rfl⟩, l2, -, hl2, poc, wpoc, mr, umr, gaps, w, uw,
      ht, uht, fm, -, d8, fc, wfc, vui, wvui, rfl, ⟨z, hz⟩, he, rfl⟩
    refine ⟨⟨sm, z, ⟨hp, hcf, hlv, by show id ≤ 31; omega, wci, by show l2 ≤ 12; omega, wpoc, umr, uw, uht, wfc, wvui⟩,
      ?_⟩, he, rfl⟩
    rw [hz]; simp [encSpsIf, List.append_assoc]
  · obtain ⟨p, cf, lv, id, ci, l2, poc, mr, gaps, w, ht, fm, d8, fc, vui⟩ := v
    rintro ⟨⟨sm, z, ⟨hp, hcf, hlv, hid, wci, hl2, wpoc, umr, uw, uht, wfc, wvui⟩, hz⟩, he, rfl⟩
    simp only at hp hcf hlv hid hl2
    exact ⟨p, hp, cf, hcf, lv, hlv, id, by omega, by omega, ci, _, ⟨sm, wci, rfl⟩, l2, by omega, by omega, poc, wpoc,
      mr, umr, gaps, w, uw, ht, uht, fm, trivial, d8, fc, wfc, vui, wvui,
      rfl, ⟨z, by rw [hz]; simp [encSpsIf, List.append_assoc]⟩, he, rfl⟩

/-- **C04 (forward)**: every SPS within the standard's ranges, encoded with the standard's syntax and followed by
the RBSP trailing bits and any number of zero bits, parses to exactly the encoded values, consuming everything. -/
theorem C04_forward (v : Sps) (sm : Option ScalingSyntax) (wf : v.WF sm)
    (hmvc : mvcOnlyProfile v.profileIdc = false) (z : Nat) :
    parseSps ⟨encSps v sm ++ trailing z, .eof⟩ = .ok (v, ⟨[], .eof⟩) := by
  rw [Sps.WF_iff, ← hasChromaInfo_std _ hmvc] at wf
  exact (parseSps_iff _ _ _).2 ⟨⟨sm, z, wf, by rw [encSps_eq, hasChromaInfo_std _ hmvc]⟩, rfl, rfl⟩

example : sample.WF none := by
  refine ⟨by decide, by decide, by decide, by decide, ?_, by decide, ?_, by simp [sample, Ue], by simp [sample, Ue], by simp [sample, Ue], ?_, ?_⟩
  · simp [ChromaInfo.WF, sample, stdHasChromaInfo, chromaFormatIdc, Ue, ChromaFormat.ofIdc, MatrixDerives]
  · simp [sample, PicOrderCntType.WF, SeRange]
  · simp [sample, Ue]
  · simp [sample, Vui.WF, AspectRatioInfo.WF, OptHrdWF, Hrd.WF, CpbSpec.WF, Ue, BitstreamRestrictions.WF]

#print axioms C04_forward
end Sps
