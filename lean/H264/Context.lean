/-! C19: `ParamSetMap` (a `Vec<Option<T>>` indexed by id) refines a last-writer-wins map -/
namespace Ctx

abbrev PMap (α : Type) := List (Option α)

def get {α} (m : PMap α) (i : Nat) : Option α := (m[i]?).join

/-- `resize_with(index+1, || None)` when too short, then overwrite slot `index` -/
def put {α} (m : PMap α) (i : Nat) (v : α) : PMap α :=
  let m' := if m.length ≤ i then m ++ List.replicate (i + 1 - m.length) none else m
  m'.set i (some v)

def iter {α} (m : PMap α) : List α := m.filterMap id

/-- pairs (id, value) in storage order, for stating the order property -/
def entries {α} (m : PMap α) : List (Nat × α) :=
  (m.zipIdx).filterMap fun p => p.1.map fun v => (p.2, v)

/-- no case split: where the slot exists the padding is empty -/
theorem put_eq {α} (m : PMap α) (i : Nat) (v : α) :
    put m i v = (m ++ List.replicate (i + 1 - m.length) none).set i (some v) := by
  unfold put
  split
  · rfl
  · rw [Nat.sub_eq_zero_of_le (by omega), List.replicate_zero, List.append_nil]

theorem put_length {α} (m : PMap α) (i : Nat) (v : α) : (put m i v).length = max m.length (i + 1) := by
  rw [put_eq, List.length_set, List.length_append, List.length_replicate]; omega

theorem get_pad {α} (m : PMap α) (n j : Nat) : get (m ++ List.replicate n none) j = get m j := by
  unfold get
  rw [List.getElem?_append]
  split
  · rfl
  · rw [List.getElem?_replicate, List.getElem?_eq_none (by omega)]; split <;> rfl

theorem get_put {α} (m : PMap α) (i j : Nat) (v : α) :
    get (put m i v) j = if j = i then some v else get m j := by
  rw [put_eq, get, List.getElem?_set]
  by_cases hj : i = j
  · subst hj
    rw [if_pos rfl, if_pos rfl, if_pos (by rw [List.length_append, List.length_replicate]; omega)]; rfl
  · rw [if_neg hj, if_neg (Ne.symm hj)]; exact get_pad ..

theorem forall_put {α} {P : Nat → α → Prop} {m : PMap α} {k : Nat} {v : α} (h : ∀ i w, get m i = some w → P i w)
    (hv : P k v) : ∀ i w, get (put m k v) i = some w → P i w := by
  intro i w hw
  rw [get_put] at hw
  split at hw
  · cases hw; subst i; exact hv
  · exact h i w hw

/-- the value most recently written under `j`, if any -/
def lastWrite {α} : List (Nat × α) → Nat → Option α
  | [], _ => none
  | (i, v) :: rest, j => match lastWrite rest j with
      | some w => some w
      | none => if j = i then some v else none

/-- **C19**: after any sequence of insertions, lookup returns the most recent value written under that id -/
theorem get_foldl {α} (ws : List (Nat × α)) (m : PMap α) (j : Nat) :
    get (ws.foldl (fun m w => put m w.1 w.2) m) j =
      match lastWrite ws j with | some w => some w | none => get m j := by
  induction ws generalizing m with
  | nil => simp [lastWrite]
  | cons w ws ih =>
    simp only [List.foldl_cons, ih, lastWrite]
    cases lastWrite ws j with
    | some x => rfl
    | none => simp only [get_put]; split <;> rfl

theorem get_empty {α} (j : Nat) : get ([] : PMap α) j = none := by simp [get]

#print axioms get_foldl

/-- entries with explicit base index, recursive form -/
def entriesFrom {α} : Nat → PMap α → List (Nat × α)
  | _, [] => []
  | k, none :: rest => entriesFrom (k+1) rest
  | k, some v :: rest => (k, v) :: entriesFrom (k+1) rest

theorem iter_eq {α} (m : PMap α) (k : Nat) : iter m = (entriesFrom k m).map Prod.snd := by
  induction m generalizing k with
  | nil => simp [iter, entriesFrom]
  | cons x xs ih => cases x <;> simpa [iter, entriesFrom] using ih (k+1)

theorem entriesFrom_eq {α} (m : PMap α) (k : Nat) :
    entriesFrom k m = (m.zipIdx k).filterMap fun p => p.1.map fun v => (p.2, v) := by
  induction m generalizing k with
  | nil => rfl
  | cons x xs ih => cases x <;> simp [entriesFrom, ih (k+1)]

theorem mem_entriesFrom_iff {α} (m : PMap α) (k : Nat) (p : Nat × α) :
    p ∈ entriesFrom k m ↔ k ≤ p.1 ∧ get m (p.1 - k) = some p.2 := by
  obtain ⟨i, v⟩ := p
  simp [entriesFrom_eq, List.mk_mem_zipIdx_iff_le_and_getElem?_sub, get, Option.join_eq_some_iff]

/-- **C19 (iteration)**: iteration yields the stored sets in strictly increasing id order -/
theorem entriesFrom_sorted {α} (m : PMap α) (k : Nat) : (entriesFrom k m).Pairwise (fun a b => a.1 < b.1) := by
  induction m generalizing k with
  | nil => simp [entriesFrom]
  | cons x xs ih =>
    cases x with
    | none => simpa [entriesFrom] using ih (k+1)
    | some v =>
      simp only [entriesFrom, List.pairwise_cons]
      refine ⟨?_, ih (k+1)⟩
      intro p hp
      have := ((mem_entriesFrom_iff xs (k+1) p).mp hp).1
      simp; omega

/-- … and each stored set exactly once: an entry is listed iff lookup by that id finds it -/
theorem mem_entriesFrom {α} (m : PMap α) (k i : Nat) (v : α) :
    (k + i, v) ∈ entriesFrom k m ↔ get m i = some v := by
  simp [mem_entriesFrom_iff]

#print axioms mem_entriesFrom
end Ctx
