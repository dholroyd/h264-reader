/-! A table that equals the row function mapped over its index range answers every lookup with that row.
The proofs by evaluation compare whole lists (one linear pass) instead of looking every index up (quadratic). -/

theorem getD_of_map_range {α} {f : Nat → α} {n : Nat} {T : List α} (h : (List.range n).map f = T) (d : α)
    (i : Fin n) : f i.val = T.getD i.val d := by
  subst h; simp [List.getD, i.isLt]

theorem getD_getD_of_map_range {α} {f : Nat → Nat → α} {n m : Nat} {T : List (List α)}
    (h : (List.range n).map (fun i => (List.range m).map (f i)) = T) (d : α) (i : Fin n) (j : Fin m) :
    f i.val j.val = (T.getD i.val []).getD j.val d := by
  rw [← getD_of_map_range h [] i]; exact getD_of_map_range rfl d j

theorem getD_of_eq_ofFn {α} {n : Nat} {f : Fin n → α} {T : List α} (h : T = List.ofFn f) (d : α) :
    T.length = n ∧ ∀ i : Fin n, T.getD i.val d = f i := by
  subst h; simp [List.getD]

theorem getD_of_take_eq_ofFn {α} {n : Nat} {f : Fin n → α} {T : List α} (h : T.take n = List.ofFn f) (d : α)
    (i : Fin n) : T.getD i.val d = f i := by
  have := (getD_of_eq_ofFn h d).2 i
  rwa [List.getD_eq_getElem?_getD, List.getElem?_take_of_lt i.isLt, ← List.getD_eq_getElem?_getD] at this

theorem forall_getD_of_zipIdx {α} {T : List α} {n : Nat} (hl : T.length = n) (d : α) {P : Nat → α → Prop}
    (h : ∀ p ∈ T.zipIdx, P p.2 p.1) (i : Fin n) : P i.val (T.getD i.val d) := by
  have hi : i.val < T.length := hl ▸ i.isLt
  have := h (T[i.val], i.val) (by simp [List.mem_zipIdx_iff_getElem?, hi])
  simpa [List.getD, hi] using this

theorem getD_some_of_map_range {α} {f : Nat → Option α} {n : Nat} {T : List α}
    (h : (List.range n).map f = T.map some) (d : α) (i : Fin n) : f i.val = some (T.getD i.val d) := by
  rw [getD_of_map_range h (some d) i, List.getD_eq_getElem?_getD, List.getD_eq_getElem?_getD, List.getElem?_map]
  cases T[i.val]? <;> rfl

theorem map_range_mul {α} (m n : Nat) (f : Nat → α) :
    (List.range (m * n)).map f = (List.range m).flatMap fun q => (List.range n).map fun o => f (n * q + o) := by
  induction m with
  | zero => simp
  | succ m ih =>
    rw [Nat.succ_mul, List.range_add, List.map_append, ih, List.range_succ, List.flatMap_append]
    simp [Nat.mul_comm]
