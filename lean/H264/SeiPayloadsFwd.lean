import H264.SeiPayloads
import H264.SpsStd
import H264.C14
/-! C11: Annex D encoders for pic_timing (D.1.2) and buffering_period (D.1.1) and the forward round trips -/
namespace SeiPayload
open Bits Sps

/-- syntax-level clock timestamp: the parsed value plus the coded full_timestamp_flag (not kept in the result) -/
abbrev ClockSyn := Option (ClockTimestamp × Bool)

def ClockTimestamp.WF (tol : Nat) (c : ClockTimestamp) (full : Bool) : Prop :=
  c.ctType < 4 ∧ c.countingType < 32 ∧ c.nFrames < 256 ∧ c.smh.WF full ∧ TimeOffsetWF tol c.timeOffset

theorem encClockTimestamp_eq (tol : Nat) (c : ClockTimestamp) (full : Bool) :
    encClockTimestamp tol c full =
      encBits 2 c.ctType ++ encBool c.nuitFieldBasedFlag ++ encBits 5 c.countingType ++ encBool full ++
      encBool c.discontinuityFlag ++ encBool c.cntDroppedFlag ++ encBits 8 c.nFrames ++ encSmh full c.smh ++
      encTimeOffset tol c.timeOffset := by
  unfold encClockTimestamp encTimeOffset; cases c.timeOffset <;> rfl

theorem readClockTimestamp_enc (s : Sps.Sps) (c : ClockTimestamp) (full : Bool)
    (wf : c.WF (timeOffsetLength s) full) (rest fin) :
    readClockTimestamp s ⟨encClockTimestamp (timeOffsetLength s) c full ++ rest, fin⟩ = .ok (c, ⟨rest, fin⟩) := by
  obtain ⟨w1, w2, w3, w4, w5⟩ := wf
  rw [encClockTimestamp_eq]
  simp [readClockTimestamp, readBits_enc, w1, w2, w3, readSmh_enc full c.smh w4, readTimeOffset_enc _ c.timeOffset w5]

def encOptClock (tol : Nat) : ClockSyn → List Bool
  | none => encBool false
  | some (c, full) => encBool true ++ encClockTimestamp tol c full

def ClockSyn.WF (tol : Nat) : ClockSyn → Prop
  | none => True
  | some (c, full) => c.WF tol full

def ClockSyn.value : ClockSyn → Option ClockTimestamp
  | none => none
  | some (c, _) => some c

theorem readOptClockTimestamp_enc (s : Sps.Sps) (x : ClockSyn) (wf : x.WF (timeOffsetLength s)) (rest fin) :
    readOptClockTimestamp s ⟨encOptClock (timeOffsetLength s) x ++ rest, fin⟩ = .ok (x.value, ⟨rest, fin⟩) := by
  cases x with
  | none => simp [readOptClockTimestamp, encOptClock, ClockSyn.value]
  | some p => simp [readOptClockTimestamp, encOptClock, readClockTimestamp_enc s p.1 p.2 wf, ClockSyn.value]

theorem readClockTimestamps_enc (s : Sps.Sps) (xs : List ClockSyn) (wf : ∀ x ∈ xs, x.WF (timeOffsetLength s))
    (rest fin) :
    readClockTimestamps s xs.length ⟨(xs.map (encOptClock (timeOffsetLength s))).flatten ++ rest, fin⟩
      = .ok (xs.map ClockSyn.value, ⟨rest, fin⟩) :=
  counted_enc rfl (fun _ => rfl) xs (fun x hx => readOptClockTimestamp_enc s x (wf x hx)) rest fin

/-- syntax-level pic_timing -/
structure PicTimingSyn where
  delays : Option (Nat × Nat)
  picStruct : Option (Nat × List ClockSyn)

def PicTimingSyn.value (p : PicTimingSyn) : PicTiming :=
  ⟨p.delays, p.picStruct.map fun q => ⟨q.1, q.2.map ClockSyn.value⟩⟩

def encDelays (h : Option Hrd) (d : Option (Nat × Nat)) : List Bool :=
  match h, d with
  | some h, some (c, d) => encBits (h.cpbRemovalDelayLengthMinus1 + 1) c ++ encBits (h.dpbOutputDelayLengthMinus1 + 1) d
  | _, _ => []

def encPicStruct (tol : Nat) : Option (Nat × List ClockSyn) → List Bool
  | some (ps, cts) => encBits 4 ps ++ (cts.map (encOptClock tol)).flatten
  | none => []

def encPicTiming (s : Sps.Sps) (p : PicTimingSyn) : List Bool :=
  encDelays (delayHrd s) p.delays ++ encPicStruct (timeOffsetLength s) p.picStruct

/-- payload end: nothing (byte aligned) or the `1 0*` alignment bits -/
def SeiTail (tail : List Bool) : Prop := tail = [] ∨ ∃ z, tail = trailing z

theorem finishSei_tail (tail : List Bool) (h : SeiTail tail) : finishSei ⟨tail, .eof⟩ = .ok ((), ⟨[], .eof⟩) := by
  rw [finishSei_outcome]
  obtain rfl | ⟨z, rfl⟩ := h
  · rfl
  · simp [trailing, allZero]

/-- the delays are coded exactly when either HRD is present, in the widths that HRD declares -/
def DelaysWF (h : Option Hrd) (d : Option (Nat × Nat)) : Prop :=
  match h with
  | some h => ∃ c e, d = some (c, e) ∧ c < 2^(h.cpbRemovalDelayLengthMinus1 + 1) ∧
                 e < 2^(h.dpbOutputDelayLengthMinus1 + 1)
  | none => d = none

theorem readDelays_enc (s : Sps.Sps) (d : Option (Nat × Nat)) (wf : DelaysWF (delayHrd s) d) (rest fin) :
    readDelays s ⟨encDelays (delayHrd s) d ++ rest, fin⟩ = .ok (d, ⟨rest, fin⟩) := by
  unfold readDelays
  generalize delayHrd s = h at wf ⊢
  cases h with
  | none => obtain rfl : d = none := wf; simp [encDelays]
  | some h => obtain ⟨c, e, rfl, hc, he⟩ := wf; simp [encDelays, readBits_enc, hc, he]

def PicStructWF (s : Sps.Sps) (p : Option (Nat × List ClockSyn)) : Prop :=
  if picStructPresent s then
     ∃ ps cts, p = some (ps, cts) ∧ ps < 16 ∧ cts.length = numClockTs ps ∧ ∀ x ∈ cts, x.WF (timeOffsetLength s)
  else p = none

def picStructValue (p : Option (Nat × List ClockSyn)) : Option PicStruct :=
  p.map fun q => ⟨q.1, q.2.map ClockSyn.value⟩

theorem readPicStruct_enc (s : Sps.Sps) (p : Option (Nat × List ClockSyn)) (wf : PicStructWF s p) (rest fin) :
    readPicStruct s ⟨encPicStruct (timeOffsetLength s) p ++ rest, fin⟩ = .ok (picStructValue p, ⟨rest, fin⟩) := by
  unfold readPicStruct PicStructWF at *
  by_cases hpp : picStructPresent s = true
  · simp only [hpp, ↓reduceIte] at wf ⊢
    obtain ⟨ps, cts, rfl, hps, hlen, hall⟩ := wf
    simp [encPicStruct, readBits_enc, hps, ← hlen, readClockTimestamps_enc s cts hall, picStructValue]
  · simp only [hpp, Bool.false_eq_true, ↓reduceIte] at wf ⊢
    subst wf; simp [encPicStruct, picStructValue]

/-- **C11 (pic_timing)**: CPB/DPB delays whenever either HRD is present, with the widths that HRD declares; pic_struct
and the prescribed number of clock timestamps with all optional parts and the signed time offset -/
theorem readPicTiming_enc (s : Sps.Sps) (p : PicTimingSyn)
    (w1 : DelaysWF (delayHrd s) p.delays) (w2 : PicStructWF s p.picStruct) (tail : List Bool) (ht : SeiTail tail) :
    readPicTiming s ⟨encPicTiming s p ++ tail, .eof⟩ = .ok (p.value, ⟨[], .eof⟩) := by
  unfold readPicTiming encPicTiming
  simp only [bind_run, List.append_assoc, readDelays_enc s _ w1, readPicStruct_enc s _ w2,
    finishSei_tail tail ht, PicTimingSyn.value, picStructValue, pure_run]

/-! ### buffering_period -/

theorem readCpbRemovalList_enc (len : Nat) (l : List InitialCpbRemoval)
    (wf : ∀ x ∈ l, x.delay < 2^len ∧ x.offset < 2^len) (rest fin) :
    readCpbRemovalList len l.length ⟨encCpbRemovalList len l ++ rest, fin⟩ = .ok (l, ⟨rest, fin⟩) := by
  have h := counted_enc (rd := readCpbRemovalList len) (enc := encCpbRemoval len) (val := id) rfl (fun _ => rfl) l
    (fun x hx rest fin => by simp [readCpbRemoval, encCpbRemoval, readBits_enc, wf x hx]) rest fin
  rwa [List.map_id] at h

/-- one delay pair per CPB for an HRD that is present, nothing for an absent one -/
def HrdBpWF : Option Hrd → Option (List InitialCpbRemoval) → Prop
  | none, l => l = none
  | some h, l => ∃ xs, l = some xs ∧ xs.length = h.cpbSpecs.length ∧
      ∀ x ∈ xs, x.delay < 2^(h.initialCpbRemovalDelayLengthMinus1 + 1) ∧ x.offset < 2^(h.initialCpbRemovalDelayLengthMinus1 + 1)

theorem readOptHrdBp_enc (h : Option Hrd) (l : Option (List InitialCpbRemoval)) (wf : HrdBpWF h l) (rest fin) :
    readOptHrdBp h ⟨encOptHrdBp h l ++ rest, fin⟩ = .ok (l, ⟨rest, fin⟩) := by
  cases h with
  | none => obtain rfl : l = none := wf; simp [readOptHrdBp, encOptHrdBp]
  | some h =>
    obtain ⟨xs, rfl, hlen, hall⟩ := wf
    simp [readOptHrdBp, encOptHrdBp, ← hlen, readCpbRemovalList_enc _ xs hall]

/-- **C11 (buffering_period)**: one delay pair per CPB for each HRD that is present -/
theorem readBufferingPeriod_enc (spsById : Nat → Option Sps.Sps) (s : Sps.Sps) (b : BufferingPeriod)
    (hid : s.spsId ≤ 31) (hctx : spsById s.spsId = some s)
    (wn : HrdBpWF (nalHrdOf s) b.nalHrdBp) (wv : HrdBpWF (vclHrdOf s) b.vclHrdBp)
    (tail : List Bool) (ht : SeiTail tail) :
    readBufferingPeriod spsById ⟨encBufferingPeriod s b ++ tail, .eof⟩ = .ok (b, ⟨[], .eof⟩) := by
  have hu : s.spsId < 2^32 - 1 := by omega
  have hn : ¬ s.spsId > 31 := by omega
  obtain ⟨n, v⟩ := b
  simp [readBufferingPeriod, encBufferingPeriod, List.append_assoc, readUe_enc _ _ hu, hn, hctx,
    readOptHrdBp_enc _ _ wn, readOptHrdBp_enc _ _ wv, finishSei_tail tail ht]

/-! ### T.35 -/
theorem ne_ff_iff (b : UInt8) : b ≠ 0xFF ↔ b.toNat < 255 := by
  rw [Ne, ← UInt8.toNat_inj, show (0xFF : UInt8).toNat = 255 from rfl]
  have := b.toNat_lt
  omega

theorem readT35_code (b : Nat) (hb : b < 255) (rest : List UInt8) :
    readT35 (encT35 (.code b) ++ rest) = .ok (.code b) rest := by
  have hto : (UInt8.ofNat b).toNat = b := UInt8.toNat_ofNat_of_lt' (show b < 256 by omega)
  have hne : UInt8.ofNat b ≠ 0xFF := (ne_ff_iff _).2 (by omega)
  simp [readT35, encT35, hne, hto]

theorem readT35_extended (e : Nat) (he : e < 256) (rest : List UInt8) :
    readT35 (encT35 (.extended e) ++ rest) = .ok (.extended e) rest := by
  simp [readT35, encT35, UInt8.toNat_ofNat_of_lt' he]

/-- the remainder starts immediately after the country code (and extension byte): exactness -/
theorem readT35_exact (p : List UInt8) (c : T35Code) (rest : List UInt8) (h : readT35 p = .ok c rest) :
    (∃ b, c = .code b ∧ b < 255 ∧ p = UInt8.ofNat b :: rest) ∨ (∃ e, c = .extended e ∧ e < 256 ∧ p = 0xFF :: UInt8.ofNat e :: rest) := by
  cases p with
  | nil => cases h
  | cons b bs =>
    simp only [readT35] at h
    split at h
    · next hff =>
      cases bs with
      | nil => cases h
      | cons e bs' => cases h; exact .inr ⟨e.toNat, rfl, e.toNat_lt, by rw [hff, UInt8.ofNat_toNat]⟩
    · next hff => cases h; exact .inl ⟨b.toNat, rfl, (ne_ff_iff b).1 hff, by rw [UInt8.ofNat_toNat]⟩

end SeiPayload
