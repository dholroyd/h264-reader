import H264.Rbsp
/-! `RefNalReader` as `Read + BufRead` over head + tail chunks: `read`, and programs of reader calls (C15) -/
namespace Rbsp
namespace Chunked

/-- `Read::read` into a buffer of length `n` -/
def read (c : Chunked) (n : Nat) : Chunked × Except IoKind (List UInt8) :=
  if n = 0 then (c, .ok [])
  else if c.cur = [] ∧ c.complete = false then (c, .error .wouldBlock)
  else if n < c.cur.length then ({ c with cur := c.cur.drop n }, .ok (c.cur.take n))
  else (c.nextChunk, .ok c.cur)

inductive Op | fill | consume (k : Nat) | read (n : Nat) | clone

/-- run a program; `d` accumulates the bytes handed out by `read`/`consume` -/
def runOps : Chunked → List Op → List UInt8 → Chunked × List UInt8
  | c, [], d => (c, d)
  | c, .fill :: ops, d => runOps c ops d
  | c, .clone :: ops, d => runOps c ops d          -- a clone is the same value
  | c, .consume k :: ops, d =>
      if k ≤ c.cur.length then runOps (c.consume k) ops (d ++ c.cur.take k) else (c, d)
  | c, .read n :: ops, d =>
      match (c.read n).2 with
      | .ok bs => runOps (c.read n).1 ops (d ++ bs)
      | .error _ => runOps (c.read n).1 ops d

end Chunked
end Rbsp
