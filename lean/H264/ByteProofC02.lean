import H264.ByteProof
import H264.DecodeNalSpec
import H264.NalSrcProofs
/-! theorems of `ByteProof` that belong to C02 (one module per property: DESIGN.md 14.7) -/
namespace ByteProof
open Rbsp NalSrc

/-- the row in terms of the declarative un-escaping (`decodeNal_eq`) -/
theorem decodeRow_eq (p : List Nat) : decodeRow p =
    if (unescFrom .start (bytes p)).2 then
      (1, (if (unescFrom .start (bytes p)).1 = bytes p then 1 else 0), nats (unescFrom .start (bytes p)).1)
    else (0, 0, []) := by
  unfold decodeRow
  rw [decodeNal_eq]
  simp only [List.drop_succ_cons, List.drop_zero, ← unescFrom_start_eq]
  by_cases h : (unescFrom .start (bytes p)).2 = true <;> simp [h]

theorem decodeNal_model_eq_code : (words [0x00, 0x01, 0x03, 0x04]).map decodeRow = Generated.decodeNalRows := by
  rw [funext decodeRow_eq]
  exact eq_of_beq (by decide +kernel)

/-- on a word free of forbidden sequences the row is the declarative un-escaping (`drain_valid`); the other rows are evaluated -/
theorem drainRow_eq (p : List Nat) : drainRow p =
    if (unescFrom .start (bytes p)).2 then (nats (unescFrom .start (bytes p)).1, 0) else drainRow p := by
  by_cases h : (unescFrom .start (bytes p)).2 = true
  · have hv := drain_rbspBytes [0x65 :: bytes p] true (by simp) (by simpa [← unescFrom_start_eq] using h)
    simp only [h, if_true, drainRow, hv]
    simp [← unescFrom_start_eq]
  · simp [h]

theorem byteReader_model_eq_code : (words [0x00, 0x01, 0x03, 0x04]).map drainRow = Generated.rbspDrainRows := by
  rw [funext drainRow_eq]
  exact eq_of_beq (by decide +kernel)

end ByteProof
