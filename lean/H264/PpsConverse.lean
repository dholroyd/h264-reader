import H264.PpsC05
/-! C05, converse, and the PPS part of C16 -/
namespace Pps
open Bits Sps

/-- **C05 (converse)** and **C16 (PPS)**: an accepted PPS bit string is the standard's encoding of the returned
structure (for some coded scaling syntax deriving the returned lists) followed by the trailing bits and zero
bits; the referenced SPS is the context entry; every range of `Pps.WF` holds -/
theorem C05_converse (spsById : Nat → Option Sps.Sps) (s s' : Src) (v : Pps)
    (h : parsePps spsById s = .ok (v, s')) :
    ∃ sp sm z, spsById v.spsId = some sp ∧ v.WF sp sm ∧ s.bits = encPps v sm ++ trailing z ∧ s.fin = .eof := by
  rw [after_start] at h
  simp only [parsePps, parse_hyp] at h
  obtain ⟨ppsId, -, c1, spsId, -, c2, h⟩ := h
  cases hsp : spsById spsId with
  | none => simp [hsp, parse_hyp] at h
  | some sp =>
    -- the thirteen fields in front of the tail, their ranges and the bits they were read from
    simp only [hsp, parse_hyp, (readSliceGroups_codes sp).after_bind_hyp, (readNumRefIdx_codes _).after_bind_hyp] at h
    obtain ⟨ec, bf, sg, wsg, l0, wl0, l1, wl1, wp, wb, wwb, qp, -, qs, -, cq, -, db, ci, rp, s1, c, h⟩ := h
    -- the tail looks ahead, so it is peeled off by hand
    obtain ⟨ext, s2, h2, h⟩ := (bind_ok_iff ..).1 h
    obtain ⟨sm, wx, cx, fx, -⟩ := readPpsExtra_exact _ _ _ _ h2
    rw [after_start] at h
    simp only [parse_hyp, after_finishRbsp] at h
    obtain ⟨nq, ns, nc, rfl, ⟨z, hz⟩, hf, -⟩ := h
    refine ⟨sp, sm, z, hsp, ?_, ?_, by rw [← c.2, ← fx, hf]⟩
    · refine ⟨by show ppsId ≤ 255; omega, by show spsId ≤ 31; omega, ?_, wl0, wl1, wwb,
        by show _ ≤ qp; omega, by show qp ≤ 25; omega, by show _ ≤ qs; omega, by show qs ≤ 25; omega,
        by show _ ≤ cq; omega, by show cq ≤ 12; omega, ?_⟩
      · cases sg <;> exact wsg
      · cases ext <;> exact wx
    · rw [c.1, cx, hz]; simp [encPps, List.append_assoc]

#print axioms C05_converse
end Pps
