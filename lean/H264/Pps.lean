import H264.Sps
/-! Prototype: PPS value types, model parser (`PicParameterSet::from_bits`, post-fix); the standard's encoder (7.3.2.2) is in `PpsStd` -/
namespace Pps
open Bits Sps

inductive SliceGroup
  | interleaved (runLengthMinus1 : List Nat)
  | dispersed (numSliceGroupsMinus1 : Nat)
  | foregroundAndLeftover (rects : List (Nat × Nat))
  | changing (mapType : Nat) (numSliceGroupsMinus1 : Nat) (directionFlag : Bool) (changeRateMinus1 : Nat)
  | explicitAssignment (numSliceGroupsMinus1 : Nat) (ids : List Nat)
deriving DecidableEq, Repr

structure PicScalingMatrix where
  l4x4 : List ScalingList
  l8x8 : Option (List ScalingList)
deriving DecidableEq, Repr

structure PpsExtra where
  transform8x8ModeFlag : Bool
  picScalingMatrix : Option PicScalingMatrix
  secondChromaQpIndexOffset : Int
deriving DecidableEq, Repr

structure Pps where
  ppsId : Nat
  spsId : Nat
  entropyCodingModeFlag : Bool
  bottomFieldPicOrderInFramePresentFlag : Bool
  sliceGroups : Option SliceGroup
  numRefIdxL0DefaultActiveMinus1 : Nat
  numRefIdxL1DefaultActiveMinus1 : Nat
  weightedPredFlag : Bool
  weightedBipredIdc : Nat
  picInitQpMinus26 : Int
  picInitQsMinus26 : Int
  chromaQpIndexOffset : Int
  deblockingFilterControlPresentFlag : Bool
  constrainedIntraPredFlag : Bool
  redundantPicCntPresentFlag : Bool
  extension : Option PpsExtra
deriving DecidableEq, Repr

/-- `SeqParameterSet::pic_size_in_map_units` after the repair: saturating `u32` product -/
def picSizeInMapUnits (s : Sps.Sps) : Nat :=
  min (2^32 - 1) ((s.picWidthInMbsMinus1 + 1) * (s.picHeightInMapUnitsMinus1 + 1))

def picWidthInMbs (s : Sps.Sps) : Nat := s.picWidthInMbsMinus1 + 1

/-- `(1f64 + n).log2().ceil()` for the admissible group counts -/
def groupIdBits : Nat → Nat
  | 0 => 0 | 1 => 1 | 2 => 2 | 3 => 2 | _ => 3

def readUeList (name : String) (bound : Nat) (errTag : String) : Nat → P (List Nat)
  | 0 => pure []
  | n+1 => do
    let x ← readUe name
    if x > bound then fail (.other errTag) else do
    let xs ← readUeList name bound errTag n
    pure (x :: xs)

def readRect (s : Sps.Sps) : P (Nat × Nat) := do
  let tl ← readUe "top_left"
  let br ← readUe "bottom_right"
  if tl > br then fail (.other "InvalidTopLeft") else
  if br > picSizeInMapUnits s then fail (.other "InvalidBottomRight") else
  if tl % picWidthInMbs s > br % picWidthInMbs s then fail (.other "InvalidTopLeft") else
  pure (tl, br)

def readRects (s : Sps.Sps) : Nat → P (List (Nat × Nat))
  | 0 => pure []
  | n+1 => do
    let x ← readRect s
    let xs ← readRects s n
    pure (x :: xs)

def readBitsList (name : String) (w : Nat) : Nat → P (List Nat)
  | 0 => pure []
  | n+1 => do
    let x ← readBits name w
    let xs ← readBitsList name w n
    pure (x :: xs)

def readSliceGroup (n : Nat) (s : Sps.Sps) : P SliceGroup := do
  let t ← readUe "slice_group_map_type"
  if t = 0 then do
    let rl ← readUeList "run_length_minus1" (picSizeInMapUnits s - 1) "InvalidRunLengthMinus1" (n + 1)
    pure (.interleaved rl)
  else if t = 1 then pure (.dispersed n)
  else if t = 2 then do
    let rs ← readRects s n
    pure (.foregroundAndLeftover rs)
  else if t = 3 ∨ t = 4 ∨ t = 5 then do
    let d ← readBool "slice_group_change_direction_flag"
    let r ← readUe "slice_group_change_rate_minus1"
    if r > picSizeInMapUnits s - 1 then fail (.other "InvalidSliceGroupChangeRateMinus1") else
    pure (.changing t n d r)
  else if t = 6 then do
    let sz ← readUe "pic_size_in_map_units_minus1"
    let ids ← readBitsList "slice_group_id" (groupIdBits n) (sz + 1)
    pure (.explicitAssignment n ids)
  else fail (.other "InvalidSliceGroupMapType")

def readSliceGroups (s : Sps.Sps) : P (Option SliceGroup) := do
  let n ← readUe "num_slice_groups_minus1"
  if n > 7 then fail (.other "InvalidNumSliceGroupsMinus1") else
  if n > 0 then do
    let g ← readSliceGroup n s
    pure (some g)
  else pure none

def readNumRefIdx (name : String) : P Nat := do
  let v ← readUe name
  if v > 31 then fail (.other "InvalidNumRefIdx") else pure v

def count8 (s : Sps.Sps) (t : Bool) : Nat :=
  if t then (if s.chromaInfo.chromaFormat = .yuv444 then 6 else 2) else 0

def readPicScalingMatrix (s : Sps.Sps) (transform8x8 : Bool) : P (Option PicScalingMatrix) := do
  let present ← readBool "pic_scaling_matrix_present_flag"
  if !present then pure none else do
  let m ← readScalingLists 6 (6 + count8 s transform8x8) 0 [] []
  pure (some ⟨m.l4x4, if m.l8x8.isEmpty then none else some m.l8x8⟩)

def readPpsExtra (s : Sps.Sps) : P (Option PpsExtra) := do
  let more ← hasMore "transform_8x8_mode_flag"
  if more then do
    let t ← readBool "transform_8x8_mode_flag"
    let m ← readPicScalingMatrix s t
    let q ← readSe "second_chroma_qp_index_offset"
    if q < -12 ∨ q > 12 then fail (.other "InvalidSecondChromaQpIndexOffset") else
    pure (some ⟨t, m, q⟩)
  else pure none

/-- `PicParameterSet::from_bits(ctx, r)`; the context is reduced to its SPS lookup -/
def parsePps (spsById : Nat → Option Sps.Sps) : P Pps := do
  let ppsId ← readUe "pic_parameter_set_id"
  if ppsId > 255 then fail (.other "BadPicParamSetId") else do
  let spsId ← readUe "seq_parameter_set_id"
  if spsId > 31 then fail (.other "BadSeqParamSetId") else
  match spsById spsId with
  | none => fail (.other "UnknownSeqParamSetId")
  | some s => do
    let ec ← readBool "entropy_coding_mode_flag"
    let bf ← readBool "bottom_field_pic_order_in_frame_present_flag"
    let sg ← readSliceGroups s
    let l0 ← readNumRefIdx "num_ref_idx_l0_default_active_minus1"
    let l1 ← readNumRefIdx "num_ref_idx_l1_default_active_minus1"
    let wp ← readBool "weighted_pred_flag"
    let wb ← readBits "weighted_bipred_idc" 2
    let qp ← readSe "pic_init_qp_minus26"
    let qs ← readSe "pic_init_qs_minus26"
    let cq ← readSe "chroma_qp_index_offset"
    let db ← readBool "deblocking_filter_control_present_flag"
    let ci ← readBool "constrained_intra_pred_flag"
    let rp ← readBool "redundant_pic_cnt_present_flag"
    let ext ← readPpsExtra s
    if qp < -(26 + 6 * (s.chromaInfo.bitDepthLumaMinus8 : Int)) ∨ qp > 25 then fail (.other "InvalidPicInitQpMinus26") else
    if qs < -26 ∨ qs > 25 then fail (.other "InvalidPicInitQsMinus26") else
    if cq < -12 ∨ cq > 12 then fail (.other "InvalidChromaQpIndexOffset") else do
    finishRbsp
    pure ⟨ppsId, spsId, ec, bf, sg, l0, l1, wp, wb, qp, qs, cq, db, ci, rp, ext⟩

end Pps
