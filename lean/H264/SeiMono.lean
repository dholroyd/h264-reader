import H264.Sei
import H264.Mono
/-! C17 for the SEI reader: on a truncated, incomplete view it yields a prefix of the complete message sequence and
then fails because it would have to wait (or fails exactly like the complete run) -/
namespace Sei
open Bits

theorem readU32_prefix (name : String) (fin : IoKind) (bs t : List UInt8) (acc : Nat) :
    match readU32 name .wouldBlock bs acc with
    | .ok (v, rest) => readU32 name fin (bs ++ t) acc = .ok (v, rest ++ t)
    | .error e => e = .io name .wouldBlock ∨ readU32 name fin (bs ++ t) acc = .error e := by
  induction bs generalizing acc with
  | nil => simp [readU32]
  | cons b bs ih =>
    simp only [readU32, List.cons_append]
    by_cases hov : acc + b.toNat ≥ 4294967296
    · simp [hov]
    · simp only [hov, ↓reduceIte]
      by_cases hff : b ≠ 0xFF
      · simp [hff]
      · simp only [hff, ↓reduceIte]
        exact ih (acc + b.toNat)

/-- the two readers are in step: same bookkeeping, the truncated one holds a prefix and would block at its end -/
def InStep (r' r : Reader) : Prop :=
  r'.done = false ∧ r.done = false ∧ r'.payloadsSeen = r.payloadsSeen ∧ r'.src.fin = .wouldBlock ∧
  ∃ t, r.src.bytes = r'.src.bytes ++ t

/-- one call on the truncated view: a message ⇒ the complete run returns the same message and the readers stay in
step; it never reports the end; an error is "would block" or the very error of the complete run -/
theorem next_prefix (r' r : Reader) (h : InStep r' r) :
    match (next r').2 with
    | .ok (some m) => (next r).2 = .ok (some m) ∧ InStep (next r').1 (next r).1
    | .ok none => False
    | .error e => e.isWouldBlock ∨ (next r).2 = .error e := by
  obtain ⟨hd', hd, hseen, hfin, t, ht⟩ := h
  obtain ⟨⟨bs', fin'⟩, seen', done'⟩ := r'
  obtain ⟨⟨bs, fin⟩, seen, done⟩ := r
  dsimp only at hd' hd hseen hfin ht
  subst hd' hd hseen hfin ht
  have p1 := readU32_prefix "payload_type" fin bs' t 0
  have hs := next_spec ⟨⟨bs', .wouldBlock⟩, seen', false⟩ rfl
  generalize next ⟨⟨bs', .wouldBlock⟩, seen', false⟩ = x at hs ⊢
  cases hs with
  | typeErr h1 =>
    simp only [h1] at p1
    rcases p1 with rfl | p1
    · exact .inl trivial
    · exact .inr (by rw [next_of rfl (.typeErr p1)])
  | ended _ _ hf => cases hf
  | trailing => exact .inl trivial
  | short => exact .inl trivial
  | @lenErr ty rest e h1 hne h2 =>
    have p2 := readU32_prefix "payload_len" fin rest t 0
    simp only [h1, h2] at p1 p2
    rcases p2 with rfl | p2
    · exact .inl trivial
    · exact .inr (by rw [next_of (r := ⟨⟨bs' ++ t, fin⟩, seen', false⟩) rfl
        (.lenErr p1 (fun h => hne ⟨h.1, h.2.1, (List.append_eq_nil_iff.mp h.2.2).1⟩) p2)])
  | @msg ty rest len rest2 h1 hne h2 hl =>
    have p2 := readU32_prefix "payload_len" fin rest t 0
    simp only [h1, h2] at p1 p2
    rw [next_of (r := ⟨⟨bs' ++ t, fin⟩, seen', false⟩) rfl
      (.msg p1 (fun h => hne ⟨h.1, h.2.1, (List.append_eq_nil_iff.mp h.2.2).1⟩) p2
        (Nat.le_trans hl (by simp)))]
    exact ⟨by rw [List.take_append_of_le_length hl], rfl, rfl, rfl, rfl, t, List.drop_append_of_le_length hl⟩

end Sei
