import H264.Rbsp
/-! The scanner one byte at a time: `unescFrom` and `scan` are both folds of `ustep`. (Of the states, `three` is the one
in which the `03` of an escape has been met and not yet consumed, so that the bytes in front of it can be handed out first;
`skip n` has `n` bytes of the chunk still to drop.) -/
namespace Rbsp

/-- one input byte: `none` when the input becomes invalid, else the next state and what is emitted
(the byte itself, or nothing when it is skipped or is an emulation-prevention `03`) -/
def ustep : PS → UInt8 → Option (PS × List UInt8)
  | .start, b => if b = 0 then some (.oneZero, [b]) else some (.start, [b])
  | .oneZero, b => if b = 0 then some (.twoZero, [b]) else some (.start, [b])
  | .twoZero, b => if b = 3 then some (.postThree, []) else if b = 0 then none else some (.start, [b])
  | .skip n, _ => some (if n ≤ 1 then .start else .skip (n - 1), [])
  | .three, _ => some (.postThree, [])
  | .postThree, b => if b = 0 then some (.oneZero, [b]) else if b ≤ 3 then some (.start, [b]) else none

def plainState (st : PS) : Prop := st = .start ∨ st = .oneZero ∨ st = .twoZero ∨ st = .postThree

theorem unescFrom_nil (st : PS) : unescFrom st [] = ([], true) := by cases st <;> rfl

theorem unescFrom_cons_none {st : PS} {b : UInt8} (h : ustep st b = none) (bs : List UInt8) :
    unescFrom st (b :: bs) = ([], false) := by
  cases st <;> simp only [ustep] at h <;> (repeat' split at h) <;> cases h <;> simp [unescFrom, *]

theorem unescFrom_cons_some {st st' : PS} {b : UInt8} {o : List UInt8} (h : ustep st b = some (st', o))
    (bs : List UInt8) : unescFrom st (b :: bs) = (o ++ (unescFrom st' bs).1, (unescFrom st' bs).2) := by
  cases st <;> simp only [ustep] at h <;> (repeat' split at h) <;> cases h <;> simp [unescFrom, *]

/-- the five ways the loop can meet a byte; `scan` has one equation for each -/
theorem ustep_cases (st : PS) (b : UInt8) :
    (ustep st b = none ∧ (st = .twoZero ∨ st = .postThree)) ∨
    (∃ st', ustep st b = some (st', [b]) ∧ plainState st') ∨
    (st = .twoZero ∧ b = 3) ∨ (∃ n, st = .skip n) ∨ st = .three := by
  cases st with
  | skip n => exact .inr (.inr (.inr (.inl ⟨n, rfl⟩)))
  | three => exact .inr (.inr (.inr (.inr rfl)))
  | twoZero => by_cases h3 : b = 3 <;> by_cases h0 : b = 0 <;> simp [ustep, plainState, *]
  | postThree => by_cases h0 : b = 0 <;> by_cases hle : b ≤ 3 <;> simp [ustep, plainState, *]
  | _ => by_cases h0 : b = 0 <;> simp [ustep, plainState, *]

theorem ustep_out {st st' : PS} {b : UInt8} {o : List UInt8} (h : ustep st b = some (st', o)) :
    o = [] ∨ (o = [b] ∧ plainState st') := by
  rcases ustep_cases st b with ⟨hn, _⟩ | ⟨s, hs, hp⟩ | ⟨rfl, rfl⟩ | ⟨n, rfl⟩ | rfl
  · rw [hn] at h; cases h
  · rw [hs] at h; cases h; exact .inr ⟨rfl, hp⟩
  all_goals cases h; exact .inl rfl

theorem scan_nil (cl : Nat) (st : PS) (i : Nat) : scan cl st i [] = .done st i := by cases st <;> rfl

theorem scan_none {st : PS} {b : UInt8} (h : ustep st b = none) (cl i : Nat) (bs : List UInt8) :
    scan cl st i (b :: bs) = .invalid st i := by
  cases st <;> simp only [ustep] at h <;> (repeat' split at h) <;> cases h <;> simp [scan, *]

/-- the loop goes on exactly over the bytes that are passed on -/
theorem scan_emit {st st' : PS} {b : UInt8} (h : ustep st b = some (st', [b])) (cl i : Nat) (bs : List UInt8) :
    scan cl st i (b :: bs) = scan cl st' (i+1) bs := by
  cases st <;> simp only [ustep] at h <;> (repeat' split at h) <;> cases h <;> simp [scan, *]

theorem scan_twoZero_three (cl i : Nat) (bs : List UInt8) : scan cl .twoZero i (3 :: bs) = .done .three i := by
  simp [scan]

theorem scan_skip (cl n i : Nat) (b : UInt8) (bs : List UInt8) :
    scan cl (.skip n) i (b :: bs) =
      .consumeInner (min cl n) (if n - min cl n = 0 then .start else .skip (n - min cl n)) := rfl

theorem scan_three (cl i : Nat) (b : UInt8) (bs : List UInt8) :
    scan cl .three i (b :: bs) = .consumeInner 1 .postThree := rfl

end Rbsp

namespace NalSrc
open Rbsp

/-- the view never has more bytes than the input still holds -/
theorem unescFrom_length_le (st : PS) (xs : List UInt8) : (unescFrom st xs).1.length ≤ xs.length := by
  induction xs generalizing st with
  | nil => simp [unescFrom_nil]
  | cons b bs ih =>
    cases h : ustep st b with
    | none => simp [unescFrom_cons_none h]
    | some q =>
      have := ih q.1
      rcases ustep_out h with ho | ⟨ho, _⟩ <;> simp [unescFrom_cons_some h, ho] <;> omega

end NalSrc

namespace Rbsp

/-- if the first byte is not lost, it was passed on by `ustep` -/
theorem unescFrom_cons_full {st : PS} {b : UInt8} {bs : List UInt8}
    (h : (unescFrom st (b :: bs)).1.length = bs.length + 1) :
    ∃ st', ustep st b = some (st', [b]) ∧ plainState st' ∧ (unescFrom st' bs).1.length = bs.length := by
  cases hu : ustep st b with
  | none => simp [unescFrom_cons_none hu] at h
  | some q =>
    have hl := NalSrc.unescFrom_length_le q.1 bs
    rw [unescFrom_cons_some hu] at h
    rcases ustep_out hu with ho | ⟨ho, hp⟩ <;>
      simp only [ho, List.nil_append, List.cons_append, List.length_cons] at h
    · omega
    · exact ⟨q.1, by rw [← ho], hp, by omega⟩

/-- the RBSP of a prefix of valid input is a prefix of its RBSP (C17, byte level) -/
theorem unescFrom_prefix (st : PS) (p t : List UInt8) (hv : (unescFrom st (p ++ t)).2 = true) :
    (unescFrom st p).2 = true ∧ (unescFrom st p).1 <+: (unescFrom st (p ++ t)).1 := by
  induction p generalizing st with
  | nil => simp [unescFrom_nil]
  | cons b bs ih =>
    cases h : ustep st b with
    | none => simp [unescFrom_cons_none h] at hv
    | some q =>
      rw [List.cons_append, unescFrom_cons_some h] at hv
      rw [List.cons_append, unescFrom_cons_some h, unescFrom_cons_some h]
      exact ⟨(ih q.1 hv).1, (List.prefix_append_right_inj _).mpr (ih q.1 hv).2⟩

#print axioms unescFrom_prefix

end Rbsp
