import H264.Sps
/-! C13: `pixel_dimensions` with the Rust `checked_*` guards vs the standard's formula on ℕ -/
namespace Sps

inductive DimErr
  | tooLarge (field : String)
  | cropping
deriving DecidableEq, Repr

def U32 : Nat := 4294967296

def mulOf : FrameMbsFlags → Nat | .fields _ => 2 | .frames => 1
def vsubOf (c : ChromaFormat) : Nat := if c = .yuv420 then 1 else 0
def hsubOf (c : ChromaFormat) : Nat := if c = .yuv420 ∨ c = .yuv422 then 1 else 0

/-! the standard's quantities (7.4.2.1.1, Table 6-1), on unbounded ℕ -/
def cropUnitX (s : Sps) : Nat := 2 ^ hsubOf s.chromaInfo.chromaFormat
def cropUnitY (s : Sps) : Nat := mulOf s.frameMbsFlags * 2 ^ vsubOf s.chromaInfo.chromaFormat
def lumaWidth (s : Sps) : Nat := 16 * (s.picWidthInMbsMinus1 + 1)
def lumaHeight (s : Sps) : Nat := 16 * mulOf s.frameMbsFlags * (s.picHeightInMapUnitsMinus1 + 1)

/-- model of `SeqParameterSet::pixel_dimensions`: every `checked_mul` / `checked_sub` of the Rust, in its order,
as the guard it is (the height's `+ 1`, unchecked in the Rust, is guarded here like the width's: no parsed value reaches it) -/
def pixelDimensions (s : Sps) : Except DimErr (Nat × Nat) :=
  if ¬ lumaWidth s < U32 then .error (.tooLarge "pic_width_in_mbs_minus1") else
  if ¬ lumaHeight s < U32 then .error (.tooLarge "pic_height_in_map_units_minus1") else
  match s.frameCropping with
  | none => .ok (lumaWidth s, lumaHeight s)
  | some c =>
    if ¬ c.left * cropUnitX s < U32 then .error (.tooLarge "left_offset") else
    if ¬ c.right * cropUnitX s < U32 then .error (.tooLarge "right_offset") else
    if ¬ c.top * cropUnitY s < U32 then .error (.tooLarge "top_offset") else
    if ¬ c.bottom * cropUnitY s < U32 then .error (.tooLarge "bottom_offset") else
    if c.left * cropUnitX s ≤ lumaWidth s ∧ c.right * cropUnitX s ≤ lumaWidth s - c.left * cropUnitX s ∧
       c.top * cropUnitY s ≤ lumaHeight s ∧ c.bottom * cropUnitY s ≤ lumaHeight s - c.top * cropUnitY s
    then .ok (lumaWidth s - c.left * cropUnitX s - c.right * cropUnitX s,
              lumaHeight s - c.top * cropUnitY s - c.bottom * cropUnitY s)
    else .error .cropping

def cropOf (s : Sps) : FrameCropping := s.frameCropping.getD ⟨0, 0, 0, 0⟩

/-- everything fits 32 bits and the crop does not exceed the picture -/
def DimsOk (s : Sps) : Prop :=
  lumaWidth s < U32 ∧ lumaHeight s < U32 ∧
  (cropOf s).left * cropUnitX s < U32 ∧ (cropOf s).right * cropUnitX s < U32 ∧
  (cropOf s).top * cropUnitY s < U32 ∧ (cropOf s).bottom * cropUnitY s < U32 ∧
  ((cropOf s).left + (cropOf s).right) * cropUnitX s ≤ lumaWidth s ∧
  ((cropOf s).top + (cropOf s).bottom) * cropUnitY s ≤ lumaHeight s

/-- a test passes exactly when its condition holds and what follows succeeds (the guards, after `ite_not`, and the
last test alike) -/
theorem check_ok_iff {ε α : Type} {c : Prop} [Decidable c] {e : ε} {k : Except ε α} {v : α} :
    (if c then k else .error e) = .ok v ↔ c ∧ k = .ok v := by
  by_cases hc : c <;> simp [hc]

theorem pixelDimensions_ok_iff (s : Sps) (v : Nat × Nat) :
    pixelDimensions s = .ok v ↔ DimsOk s ∧
      v = (lumaWidth s - ((cropOf s).left + (cropOf s).right) * cropUnitX s,
           lumaHeight s - ((cropOf s).top + (cropOf s).bottom) * cropUnitY s) := by
  unfold DimsOk pixelDimensions cropOf
  cases s.frameCropping with
  | none =>
    simp only [ite_not, check_ok_iff, Except.ok.injEq, Option.getD_none, Nat.zero_mul, Nat.zero_add, Nat.sub_zero]
    constructor
    · rintro ⟨h1, h2, rfl⟩; exact ⟨⟨h1, h2, by decide, by decide, by decide, by decide, by omega, by omega⟩, rfl⟩
    · rintro ⟨⟨h1, h2, _⟩, rfl⟩; exact ⟨h1, h2, rfl⟩
  | some c =>
    -- the last test says, in the steps of the `checked_sub`s, that left + right and top + bottom fit the picture
    simp only [ite_not, check_ok_iff, Except.ok.injEq, Option.getD_some, Nat.add_mul, Nat.sub_sub]
    constructor
    · rintro ⟨h1, h2, h3, h4, h5, h6, ⟨_, _, _, _⟩, rfl⟩
      exact ⟨⟨h1, h2, h3, h4, h5, h6, by omega, by omega⟩, rfl⟩
    · rintro ⟨⟨h1, h2, h3, h4, h5, h6, _, _⟩, rfl⟩
      exact ⟨h1, h2, h3, h4, h5, h6, ⟨by omega, by omega, by omega, by omega⟩, rfl⟩

/-- **C13**: `Ok` exactly when no product exceeds 32 bits and the crop does not exceed the picture, and then the
value is the standard's formula -/
theorem C13_dims (s : Sps) :
    (DimsOk s → pixelDimensions s =
      .ok (lumaWidth s - ((cropOf s).left + (cropOf s).right) * cropUnitX s,
           lumaHeight s - ((cropOf s).top + (cropOf s).bottom) * cropUnitY s)) ∧
    (¬ DimsOk s → ∃ e, pixelDimensions s = .error e) := by
  refine ⟨fun h => (pixelDimensions_ok_iff s _).mpr ⟨h, rfl⟩, fun hn => ?_⟩
  cases h : pixelDimensions s with
  | error e => exact ⟨e, rfl⟩
  | ok v => exact absurd ((pixelDimensions_ok_iff s v).mp h).1 hn
#print axioms C13_dims
/-! ### the remaining helper values (C13) -/
def picWidthInMbs (s : Sps) : Nat := s.picWidthInMbsMinus1 + 1
def picHeightInMapUnits (s : Sps) : Nat := s.picHeightInMapUnitsMinus1 + 1
/-- `saturating_mul` -/
def picSizeInMapUnits (s : Sps) : Nat := min (picWidthInMbs s * picHeightInMapUnits s) (U32 - 1)

/-- `fps()` as the exact pair (time_scale, num_units_in_tick); the value is time_scale / (2 · num_units_in_tick) -/
def fpsOf (s : Sps) : Option (Nat × Nat) :=
  match s.vui with
  | none => none
  | some v => match v.timingInfo with
    | none => none
    | some t => some (t.timeScale, t.numUnitsInTick)

def hexDigitU (n : Nat) : Char := if n < 10 then Char.ofNat (48 + n) else Char.ofNat (55 + n)
def hex2U (n : Nat) : String := String.ofList [hexDigitU (n / 16 % 16), hexDigitU (n % 16)]
/-- RFC 6381 codec string: `avc1.` followed by profile_idc, constraint flags and level_idc in hex -/
def rfc6381 (s : Sps) : String := "avc1." ++ hex2U s.profileIdc ++ hex2U s.constraintFlags ++ hex2U s.levelIdc
end Sps
