import H264.Codes
/-! C07, what the round trips of `Codes.lean` leave: too-large and truncated codewords, and the Rust `u32`/`i32`
expression of `golomb_to_signed` -/
namespace Bits

/-- 32 or more leading zero bits: rejected as too large, whatever follows -/
theorem readUe_tooLarge (name) (n : Nat) (h : 32 ≤ n) (rest fin) :
    readUe name ⟨List.replicate n false ++ true :: rest, fin⟩ = .error (.tooLarge name) := by
  have hc : n > 31 := by omega
  simp [readUe, readUnary1_enc, hc]

theorem unaryGo_zeros (name fin) (n acc : Nat) :
    unaryGo name fin (List.replicate n false) acc = .error (.io name fin) := by
  induction n generalizing acc with
  | zero => simp [unaryGo]
  | succ n ih => simp [List.replicate_succ, unaryGo, ih]

theorem readBits_short (name) (n : Nat) (bits : List Bool) (h : bits.length < n) (fin) :
    readBits name n ⟨bits, fin⟩ = .error (.io name fin) := by
  induction n generalizing bits with
  | zero => omega
  | succ n ih =>
    cases bits with
    | nil => simp [readBits, readBit]
    | cons b bs =>
      have : bs.length < n := by simp at h; omega
      simp [readBits, readBit, ih bs this]

theorem readUe'_truncated (name) (n v : Nat) (hn31 : n ≤ 31) (m : Nat) (hm : m < (encUe' n v).length) (fin) :
    readUe name ⟨(encUe' n v).take m, fin⟩ = .error (.io name fin) := by
  unfold encUe' at *
  simp only [List.length_append, List.length_replicate, List.length_cons, encBits_length] at hm
  rw [List.take_append, List.take_replicate, List.length_replicate]
  by_cases hmn : m ≤ n
  · -- cut inside the zero prefix
    rw [Nat.min_eq_left hmn, Nat.sub_eq_zero_of_le hmn, List.take_zero, List.append_nil]
    simp [readUe, readUnary1, unaryGo_zeros]
  · -- cut inside the suffix
    have hshort : ((encBits n v).take (m - n - 1)).length < n := by rw [List.length_take, encBits_length]; omega
    rw [Nat.min_eq_right (by omega), show m - n = (m - n - 1) + 1 by omega, List.take_succ_cons]
    simp [readUe, readUnary1_enc, show ¬ n > 31 by omega, show n > 0 by omega, readBits_short _ _ _ hshort]

/-- a codeword cut short by the end of the data is a read error naming the field — never a wrong value -/
theorem readUe_truncated (name) (k : Nat) (hk : k < 2^32 - 1) (m : Nat) (hm : m < (encUe k).length) (fin) :
    readUe name ⟨(encUe k).take m, fin⟩ = .error (.io name fin) := by
  obtain ⟨n, v, hn, hv, rfl⟩ := ue_split k hk
  rw [encUe_eq n v hv] at hm ⊢
  exact readUe'_truncated name n v hn m hm fin

/-! the Rust expression, operation by operation, on 32-bit values with wrap-around made explicit -/
def wrapI32 (x : Int) : Int := ((x + 2^31) % 2^32) - 2^31

/-- `golomb_to_signed(val: u32) -> i32`:
`let sign = (((val & 1) as i32) << 1) - 1; ((val >> 1) as i32 + (val & 1) as i32) * sign` -/
def golombToSignedRust (val : Nat) : Int :=
  let sign := wrapI32 (wrapI32 (((val % 2 : Nat) : Int) * 2) - 1)
  wrapI32 (wrapI32 (wrapI32 ((val / 2 : Nat) : Int) + ((val % 2 : Nat) : Int)) * sign)

theorem wrapI32_id (x : Int) (h : -(2^31) ≤ x ∧ x < 2^31) : wrapI32 x = x := by
  unfold wrapI32; omega

/-- no intermediate result leaves the `i32` range for any value `read_ue` can return, and the result is
(−1)^(k+1)·⌈k/2⌉ -/
theorem golombToSignedRust_eq (k : Nat) (h : k < 2^32 - 1) : golombToSignedRust k = seOfUe k := by
  have hs1 : wrapI32 (wrapI32 (((1 : Nat) : Int) * 2) - 1) = 1 := by unfold wrapI32; omega
  have hs0 : wrapI32 (wrapI32 (((0 : Nat) : Int) * 2) - 1) = -1 := by unfold wrapI32; omega
  unfold golombToSignedRust seOfUe
  rcases Nat.mod_two_eq_zero_or_one k with hk | hk <;> simp only [hk, Nat.zero_ne_one, ↓reduceIte]
  · rw [hs0, Int.mul_neg_one, wrapI32_id (k / 2 : Nat) (by omega), wrapI32_id (_ + _) (by omega),
      wrapI32_id _ (by omega)]
    omega
  · rw [hs1, Int.mul_one, wrapI32_id (k / 2 : Nat) (by omega), wrapI32_id (_ + _) (by omega),
      wrapI32_id _ (by omega)]
    omega

#print axioms readUe_truncated
#print axioms golombToSignedRust_eq
end Bits
