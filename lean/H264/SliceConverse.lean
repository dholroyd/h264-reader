import H264.SliceC06
/-! C06 converse: whatever `parseSliceHeader` accepts is exactly the standard-order coding of what it returned
(and, where the context holds the PPS under its own id, the returned header is well-formed in the sense of `SliceWF`, so
`C06_forward` applies to it: `C06_reencode`). -/
namespace Slice
open Bits Sps

theorem C06_converse (ctx : Ctx) (hdr : NalHdr) (s s' : Src) (h : SliceHeader) (sid pid : Nat)
    (hok : parseSliceHeader ctx hdr s = .ok ((h, sid, pid), s')) :
    ∃ pps sps x alt, ctx.pps pid = some pps ∧ pps.spsId = sid ∧ ctx.sps sid = some sps ∧ pid ≤ 255 ∧
      s.bits = encSliceHeaderAlt sps pps hdr h x pid alt ++ s'.bits ∧ s'.fin = s.fin ∧
      (s'.bits.drop 1).any id = true ∧
      (pps.ppsId = pid → SliceWF sps pps hdr h x) := by
  obtain ⟨pps, sps, x, alt, hpps, hsid, hsps, wf, c, more⟩ := (parseSliceHeader_iff ctx hdr s s' h sid pid).1 hok
  refine ⟨pps, sps, x, alt, hpps, hsid, hsps, wf.ppsId, c.1, c.2, more, ?_⟩
  rintro rfl
  exact wf

/-- the two directions meet: in a context whose PPS table is keyed by the PPS's own id, an accepted header is
well-formed, and parsing its *standard* coding (`encSliceHeader`, the encoder of `C06_forward`) followed by any
slice data returns the same header and parameter-set ids -/
theorem C06_reencode (ctx : Ctx) (hdr : NalHdr) (s s' : Src) (h : SliceHeader) (sid pid : Nat)
    (hok : parseSliceHeader ctx hdr s = .ok ((h, sid, pid), s'))
    (hkey : ∀ p, ctx.pps pid = some p → p.ppsId = pid) :
    ∃ pps sps x, ctx.pps pid = some pps ∧ ctx.sps sid = some sps ∧ SliceWF sps pps hdr h x ∧
      ∀ (d : Bool) (data : List Bool) (z : Nat),
        parseSliceHeader ctx hdr ⟨encSliceHeader sps pps hdr h x ++ d :: (data ++ trailing z), .eof⟩
          = .ok ((h, sid, pid), ⟨d :: (data ++ trailing z), .eof⟩) := by
  obtain ⟨pps, sps, x, alt, hpps, hsid, hsps, _, _, _, _, hwf⟩ := C06_converse ctx hdr s s' h sid pid hok
  have hp := hkey pps hpps
  refine ⟨pps, sps, x, hpps, hsps, hwf hp, ?_⟩
  intro d data z
  subst hp
  subst hsid
  exact C06_forward ctx sps pps hdr h x hpps hsps (hwf rfl) d data z

#print axioms Slice.encSliceHeaderAlt_std
#print axioms Slice.C06_converse
#print axioms Slice.C06_reencode
end Slice
