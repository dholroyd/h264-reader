import Lean.Meta.Tactic.Simp.RegisterCommand
/-- closure lemmas `K.holds p` of the model parsers, looked up by the `closed` tactic -/
register_simp_attr closed
