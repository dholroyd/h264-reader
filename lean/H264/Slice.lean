import H264.Pps
/-! Prototype: slice header value types and model parser (`SliceHeader::from_bits`, post-fix) -/
namespace Slice
open Bits Sps Pps

inductive Family | P | B | I | SP | SI
deriving DecidableEq, Repr

def familyOf (sliceTypeId : Nat) : Family :=
  match sliceTypeId % 5 with
  | 0 => .P | 1 => .B | 2 => .I | 3 => .SP | _ => .SI

inductive FieldPic | frame | top | bottom
deriving DecidableEq, Repr

inductive PicOrderCountLsb
  | frame (lsb : Nat)
  | fieldsAbsolute (lsb : Nat) (deltaBottom : Int)
  | fieldsDelta (d0 d1 : Int)
deriving DecidableEq, Repr

inductive NumRefIdxActive
  | P (l0 : Nat)
  | B (l0 l1 : Nat)
deriving DecidableEq, Repr

inductive ModOp | subtract (v : Nat) | add (v : Nat) | longTermRef (v : Nat)
deriving DecidableEq, Repr

inductive RefPicListMods
  | I
  | P (l0 : List ModOp)
  | B (l0 l1 : List ModOp)
deriving DecidableEq, Repr

structure PredWeightTable where
  lumaLog2WeightDenom : Nat
  chromaLog2WeightDenom : Option Nat
  lumaWeights : List (Option (Int × Int))
  chromaWeights : List (List (Int × Int))
deriving DecidableEq, Repr

inductive Mmco
  | shortTermUnused (diff : Nat)
  | longTermUnused (num : Nat)
  | shortTermToLongTerm (diff idx : Nat)
  | maxLongTermIdx (plus1 : Nat)
  | allUnused
  | currentToLongTerm (idx : Nat)
deriving DecidableEq, Repr

inductive DecRefPicMarking
  | idr (noOutputOfPriorPics longTermReference : Bool)
  | slidingWindow
  | adaptive (ops : List Mmco)
deriving DecidableEq, Repr

structure SliceHeader where
  firstMbInSlice : Nat
  sliceTypeId : Nat
  colourPlane : Option Nat
  frameNum : Nat
  fieldPic : FieldPic
  idrPicId : Option Nat
  picOrderCntLsb : Option PicOrderCountLsb
  redundantPicCnt : Option Nat
  directSpatialMvPredFlag : Option Bool
  numRefIdxActive : Option NumRefIdxActive
  refPicListModification : RefPicListMods
  predWeightTable : Option PredWeightTable
  decRefPicMarking : Option DecRefPicMarking
  cabacInitIdc : Option Nat
  sliceQpDelta : Int
  spForSwitchFlag : Option Bool
  sliceQs : Option Nat
  disableDeblockingFilterIdc : Nat
deriving DecidableEq, Repr

structure NalHdr where
  nalRefIdc : Nat
  nalUnitType : Nat
deriving DecidableEq, Repr

structure Ctx where
  sps : Nat → Option Sps.Sps
  pps : Nat → Option Pps.Pps

/-! ### sub-readers -/

/-- `RefPicListModifications::read_list` loop body, with explicit fuel (each iteration consumes ≥ 1 bit) -/
def readModOps : Nat → P (List ModOp)
  | 0 => fail (.panic "fuel")
  | fuel+1 => do
    let idc ← readUe "modification_of_pic_nums_idc"
    if idc = 0 then do
      let v ← readUe "abs_diff_pic_num_minus1"
      let rest ← readModOps fuel
      pure (.subtract v :: rest)
    else if idc = 1 then do
      let v ← readUe "abs_diff_pic_num_minus1"
      let rest ← readModOps fuel
      pure (.add v :: rest)
    else if idc = 2 then do
      let v ← readUe "long_term_pic_num"
      let rest ← readModOps fuel
      pure (.longTermRef v :: rest)
    else if idc = 3 then pure []
    else fail (.other "InvalidModificationOfPicNumIdc")

def readModList : P (List ModOp) := do
  let f ← readBool "ref_pic_list_modification_flag"
  if !f then pure [] else fun s => readModOps (s.bits.length + 1) s

def readRefPicListMods (fam : Family) : P RefPicListMods :=
  match fam with
  | .I | .SI => pure .I
  | .B => do
    let a ← readModList
    let b ← readModList
    pure (.B a b)
  | .P | .SP => do
    let a ← readModList
    pure (.P a)

def readLumaWeight : P (Option (Int × Int)) := do
  let lf ← readBool "luma_weight_l0_flag"
  if lf then do
    let w ← readSe "luma_weight_l0"
    let o ← readSe "luma_offset_l0"
    pure (some (w, o))
  else pure none

def readChromaWeights : P (List (Int × Int)) := do
  let cf ← readBool "chroma_weight_l0_flag"
  if cf then do
    let w0 ← readSe "chroma_weight_l0"
    let o0 ← readSe "chroma_offset_l0"
    let w1 ← readSe "chroma_weight_l0"
    let o1 ← readSe "chroma_offset_l0"
    pure [(w0, o0), (w1, o1)]
  else pure []

def readPredWeightEntries (chroma : Bool) : Nat → P (List (Option (Int × Int)) × List (List (Int × Int)))
  | 0 => pure ([], [])
  | n+1 => do
    let lw ← readLumaWeight
    if chroma then do
      let cw ← readChromaWeights
      let (ls, cs) ← readPredWeightEntries chroma n
      pure (lw :: ls, cw :: cs)
    else do
      let (ls, cs) ← readPredWeightEntries chroma n
      pure (lw :: ls, cs)

/-- num_ref_idx_l0_active_minus1 in effect: the override if coded, else the PPS default -/
def effectiveL0 (pps : Pps.Pps) : Option NumRefIdxActive → Nat
  | some (.P l0) => l0
  | some (.B l0 _) => l0
  | none => pps.numRefIdxL0DefaultActiveMinus1

def readPredWeightTable (fam : Family) (pps : Pps.Pps) (sps : Sps.Sps) (nra : Option NumRefIdxActive) :
    P PredWeightTable := do
  let chroma := !(sps.chromaInfo.separateColourPlaneFlag) && sps.chromaInfo.chromaFormat != .monochrome
  let ld ← readUe "luma_log2_weight_denom"
  let cd ← if chroma then (do let v ← readUe "chroma_log2_weight_denom"; pure (some v)) else pure none
  let (lw, cw) ← readPredWeightEntries chroma (effectiveL0 pps nra + 1)
  if fam = .B then fail (.unsupported "B frame") else
  pure ⟨ld, cd, lw, cw⟩

def readMmcos : Nat → P (List Mmco)
  | 0 => fail (.panic "fuel")
  | fuel+1 => do
    let op ← readUe "memory_management_control_operation"
    if op = 0 then pure []
    else if op = 1 then do
      let d ← readUe "difference_of_pic_nums_minus1"
      let rest ← readMmcos fuel
      pure (.shortTermUnused d :: rest)
    else if op = 2 then do
      let n ← readUe "long_term_pic_num"
      let rest ← readMmcos fuel
      pure (.longTermUnused n :: rest)
    else if op = 3 then do
      let d ← readUe "difference_of_pic_nums_minus1"
      let i ← readUe "long_term_frame_idx"
      let rest ← readMmcos fuel
      pure (.shortTermToLongTerm d i :: rest)
    else if op = 4 then do
      let m ← readUe "max_long_term_frame_idx_plus1"
      let rest ← readMmcos fuel
      pure (.maxLongTermIdx m :: rest)
    else if op = 5 then do
      let rest ← readMmcos fuel
      pure (.allUnused :: rest)
    else if op = 6 then do
      let i ← readUe "long_term_frame_idx"
      let rest ← readMmcos fuel
      pure (.currentToLongTerm i :: rest)
    else fail (.other "InvalidMemoryManagementControlOperation")

def readDecRefPicMarking (hdr : NalHdr) : P DecRefPicMarking :=
  if hdr.nalUnitType = 5 then do
    let a ← readBool "no_output_of_prior_pics_flag"
    let b ← readBool "long_term_reference_flag"
    pure (.idr a b)
  else do
    let f ← readBool "adaptive_ref_pic_marking_mode_flag"
    if f then do
      let ops ← fun s => readMmcos (s.bits.length + 1) s
      pure (.adaptive ops)
    else pure .slidingWindow

def readNumRefIdx (name : String) : P Nat := do
  let v ← readUe name
  if v > 31 then fail (.other "InvalidNumRefIdx") else pure v

def readColourPlane (sps : Sps.Sps) : P (Option Nat) :=
  if sps.chromaInfo.separateColourPlaneFlag then do
    let v ← readBits "colour_plane_id" 2
    if v > 2 then fail (.other "ColourPlaneError") else pure (some v)
  else pure none

def readFieldPic (sps : Sps.Sps) : P FieldPic :=
  match sps.frameMbsFlags with
  | .fields _ => do
      let f ← readBool "field_pic_flag"
      if f then do
        let b ← readBool "bottom_field_flag"
        pure (if b then FieldPic.bottom else FieldPic.top)
      else pure FieldPic.frame
  | .frames => pure FieldPic.frame

def readIdrPicId (hdr : NalHdr) : P (Option Nat) :=
  if hdr.nalUnitType = 5 then do let v ← readUe "idr_pic_id"; pure (some v) else pure none

def readPoc (sps : Sps.Sps) (pps : Pps.Pps) (fieldPic : FieldPic) : P (Option PicOrderCountLsb) :=
  match sps.picOrderCnt with
  | .typeZero l => do
      let lsb ← readBits "pic_order_cnt_lsb" (l + 4)
      if pps.bottomFieldPicOrderInFramePresentFlag && fieldPic == .frame then do
        let d ← readSe "delta_pic_order_cnt_bottom"
        pure (some (PicOrderCountLsb.fieldsAbsolute lsb d))
      else pure (some (PicOrderCountLsb.frame lsb))
  | .typeOne az _ _ _ =>
      if az then pure (some (PicOrderCountLsb.fieldsDelta 0 0)) else do
        let d0 ← readSe "delta_pic_order_cnt[0]"
        if pps.bottomFieldPicOrderInFramePresentFlag && fieldPic == .frame then do
          let d1 ← readSe "delta_pic_order_cnt[1]"
          pure (some (PicOrderCountLsb.fieldsDelta d0 d1))
        else pure (some (PicOrderCountLsb.fieldsDelta d0 0))
  | .typeTwo => pure none

def readRedundant (pps : Pps.Pps) : P (Option Nat) :=
  if pps.redundantPicCntPresentFlag then do let v ← readUe "redundant_pic_cnt "; pure (some v) else pure none

def readDirect (fam : Family) : P (Option Bool) :=
  if fam = .B then do let b ← readBool "direct_spatial_mv_pred_flag"; pure (some b) else pure none

def readNumRefIdxActive (fam : Family) : P (Option NumRefIdxActive) :=
  if fam = .P ∨ fam = .SP ∨ fam = .B then do
    let o ← readBool "num_ref_idx_active_override_flag"
    if o then do
      let l0 ← readNumRefIdx "num_ref_idx_l0_active_minus1"
      if fam = .B then do
        let l1 ← readNumRefIdx "num_ref_idx_l1_active_minus1"
        pure (some (NumRefIdxActive.B l0 l1))
      else pure (some (NumRefIdxActive.P l0))
    else pure none
  else pure none

def pwtPresent (fam : Family) (pps : Pps.Pps) : Bool :=
  (pps.weightedPredFlag && (fam == .P || fam == .SP)) || (pps.weightedBipredIdc == 1 && fam == .B)

def readPwtOpt (fam : Family) (pps : Pps.Pps) (sps : Sps.Sps) (nra : Option NumRefIdxActive) :
    P (Option PredWeightTable) :=
  if pwtPresent fam pps then do
    let t ← readPredWeightTable fam pps sps nra
    pure (some t)
  else pure none

def readMarkingOpt (hdr : NalHdr) : P (Option DecRefPicMarking) :=
  if hdr.nalRefIdc = 0 then pure none else do
    let m ← readDecRefPicMarking hdr
    pure (some m)

def readCabac (fam : Family) (pps : Pps.Pps) : P (Option Nat) :=
  if pps.entropyCodingModeFlag ∧ fam ≠ .I ∧ fam ≠ .SI then do
    let v ← readUe "cabac_init_idc"; pure (some v)
  else pure none

def readQpDelta : P Int := do
  let q ← readSe "slice_qp_delta"
  if q > 51 then fail (.other "InvalidSliceQpDelta") else pure q

def readSpSwitch (fam : Family) : P (Option Bool) :=
  if fam = .SP then do
    let b ← readBool "sp_for_switch_flag"
    pure (some b)
  else pure none

def readSwitchQs (fam : Family) (pps : Pps.Pps) : P (Option Bool × Option Nat) :=
  if fam = .SP ∨ fam = .SI then do
    let sw ← readSpSwitch fam
    let d ← readSe "slice_qs_delta"
    let qsY : Int := 26 + pps.picInitQsMinus26 + d
    if qsY < 0 ∨ 51 < qsY then fail (.other "InvalidSliceQsDelta") else
    pure (sw, some qsY.toNat)
  else pure (none, none)

def readDeblock (pps : Pps.Pps) : P Nat :=
  if pps.deblockingFilterControlPresentFlag then do
    let v ← readUe "disable_deblocking_filter_idc"
    if v > 6 then fail (.other "InvalidDisableDeblockingFilterIdc") else
    if v ≠ 1 then do
      let a ← readSe "slice_alpha_c0_offset_div2"
      if a < -6 ∨ 6 < a then fail (.other "InvalidSliceAlphaC0OffsetDiv2") else do
      let _b ← readSe "slice_beta_offset_div2"
      pure v
    else pure v
  else pure 0

def requireMore : P Unit := do
  let more ← hasMore "slice_header"
  if !more then fail (.io "slice_header" .eof) else pure ()

/-- the part of the header after the parameter sets have been activated -/
def readSliceBody (sps : Sps.Sps) (pps : Pps.Pps) (hdr : NalHdr) (firstMb st ppsId : Nat) :
    P (SliceHeader × Nat × Nat) := do
  let fam := familyOf st
  let colourPlane ← readColourPlane sps
  let frameNum ← readBits "frame_num" (sps.log2MaxFrameNumMinus4 + 4)
  let fieldPic ← readFieldPic sps
  let idrPicId ← readIdrPicId hdr
  let poc ← readPoc sps pps fieldPic
  let redundant ← readRedundant pps
  let direct ← readDirect fam
  let nra ← readNumRefIdxActive fam
  if hdr.nalUnitType = 20 ∨ hdr.nalUnitType = 21 then fail (.unsupported "NALU types 20 and 21") else do
  let mods ← readRefPicListMods fam
  let pwt ← readPwtOpt fam pps sps nra
  let marking ← readMarkingOpt hdr
  let cabac ← readCabac fam pps
  let qpDelta ← readQpDelta
  let (spSwitch, sliceQs) ← readSwitchQs fam pps
  let dbIdc ← readDeblock pps
  requireMore
  pure (⟨firstMb, st, colourPlane, frameNum, fieldPic, idrPicId, poc, redundant, direct, nra, mods, pwt,
         marking, cabac, qpDelta, spSwitch, sliceQs, dbIdc⟩, pps.spsId, ppsId)

/-- `SliceHeader::from_bits(ctx, r, header)`; returns the header and the ids of the activated SPS / PPS -/
def parseSliceHeader (ctx : Ctx) (hdr : NalHdr) : P (SliceHeader × Nat × Nat) := do
  let firstMb ← readUe "first_mb_in_slice"
  let st ← readUe "slice_type"
  if st > 9 then fail (.other "InvalidSliceType") else do
  let ppsId ← readUe "pic_parameter_set_id"
  if ppsId > 255 then fail (.other "InvalidSeqParamSetId") else
  match ctx.pps ppsId with
  | none => fail (.other "UndefinedPicParamSetId")
  | some pps =>
  match ctx.sps pps.spsId with
  | none => fail (.other "UndefinedSeqParamSetId")
  | some sps => readSliceBody sps pps hdr firstMb st ppsId

end Slice
