import H264.RbspTryFill
import H264.RbspSpec
import H264.NalSrc
/-! The freshly constructed `ByteReader` over a chunked NAL: invariant, and its view in terms of the whole NAL -/
namespace Rbsp

/-- parse state a constructor starts in: `without_skip` (0), `skipping_h264_header` (1), `skipping_bytes(n)` -/
def initState (skip : Nat) : PS := if skip = 0 then .start else .skip skip

def initReader (chunks : List (List UInt8)) (complete : Bool) (skip maxFill : Nat) : BR :=
  ⟨NalSrc.mkChunked chunks complete, initState skip, 0, maxFill⟩

theorem mkChunked_rest (chunks : List (List UInt8)) (complete : Bool) :
    (NalSrc.mkChunked chunks complete).rest = chunks.flatten := by
  cases chunks <;> simp [NalSrc.mkChunked, Chunked.rest]

theorem mkChunked_wf (chunks : List (List UInt8)) (complete : Bool) (hne : ∀ c ∈ chunks, c ≠ []) :
    (NalSrc.mkChunked chunks complete).WF := by
  cases chunks with
  | nil => simp [NalSrc.mkChunked, Chunked.WF]
  | cons h t =>
    simp only [NalSrc.mkChunked, Chunked.WF]
    refine ⟨fun x hx => hne x (by simp [hx]), fun hh => ?_⟩
    exact absurd hh (hne h (by simp))

theorem initReader_inv (chunks : List (List UInt8)) (complete : Bool) (skip maxFill : Nat)
    (hne : ∀ c ∈ chunks, c ≠ []) (hmf : 1 ≤ maxFill) : Inv (initReader chunks complete skip maxFill) := by
  refine ⟨mkChunked_wf chunks complete hne, by simp [initReader], hmf, ?_⟩
  intro n hn
  simp only [initReader, initState] at hn
  split at hn
  · cases hn
  · injection hn with hn; subst hn; exact ⟨rfl, by omega⟩

/-- the view of a fresh reader depends only on the concatenation of the chunks -/
theorem initReader_view (chunks : List (List UInt8)) (complete : Bool) (skip maxFill : Nat) :
    view (initReader chunks complete skip maxFill) = unescFrom (initState skip) chunks.flatten := by
  simp [view, initReader, mkChunked_rest]

theorem initState_unesc (skip : Nat) (xs : List UInt8) :
    unescFrom (initState skip) xs = unesc (xs.drop skip) := by
  unfold initState
  by_cases h : skip = 0
  · simp [h, unescFrom_start_eq]
  · simp only [h, ↓reduceIte]
    rw [unescFrom_skip_drop skip (by omega), unescFrom_start_eq]

/-- so the view of a fresh reader is the declarative un-escaping of what follows the skipped bytes -/
theorem initReader_view_unesc (chunks : List (List UInt8)) (complete : Bool) (skip maxFill : Nat) :
    view (initReader chunks complete skip maxFill) = unesc (chunks.flatten.drop skip) := by
  rw [initReader_view, initState_unesc]

theorem rbspBytes_eq (chunks : List (List UInt8)) (complete : Bool) :
    NalSrc.rbspBytes chunks complete = initReader chunks complete 1 128 := rfl

end Rbsp
