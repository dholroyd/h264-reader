import H264.GeneratedTables
/-! theorems over the function graphs extracted from the running code: parameter-set id wrappers (one module per property: DESIGN.md 14.7) -/
namespace C20
open Generated

theorem id_wrappers : ∀ p ∈ idProbes,
    p.2.1 = (if p.1 ≤ 31 then some p.1 else none) ∧ p.2.2 = (if p.1 ≤ 255 then some p.1 else none) := by
  decide +kernel

end C20
