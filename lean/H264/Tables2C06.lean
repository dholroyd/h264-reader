import H264.Tables2
/-! theorems of `Tables2` that belong to C06 (one module per property: DESIGN.md 14.7) -/
namespace Tables2
open Generated

/-- Table 7-6: slice_type 0…9 accepted, 10…63 refused; the family is the model's `familyOf` (slice_type mod 5) and
types 5…9 are the "all slices of the picture" variants -/
theorem sliceType_table : sliceType.length = 64 ∧
    ∀ t : Fin 64, sliceType.getD t.val (9,9,9) =
      (if t.val ≤ 9 then (1, famIdx (Slice.familyOf t.val), if t.val ≥ 5 then 1 else 0) else (0, 0, 0)) := by
  decide +kernel

end Tables2
