import H264.RefNal
/-! C15: the chunked inner reader hands out the concatenation of its chunks, whatever the calls -/
namespace Rbsp
namespace Chunked

/-- moving on needs only that the chunks still to come are non-empty -/
theorem nextChunk_spec (c : Chunked) (hne : ∀ t ∈ c.tail, t ≠ []) :
    c.nextChunk.WF ∧ c.nextChunk.rest = c.tail.flatten ∧ c.nextChunk.complete = c.complete := by
  unfold nextChunk
  cases ht : c.tail with
  | nil => simp [WF, rest]
  | cons t ts =>
    have htne : t ≠ [] := hne t (by simp [ht])
    refine ⟨⟨fun t' h' => hne t' (by simp [ht, h']), fun h => absurd h htne⟩, by simp [rest], rfl⟩

theorem consume_rest (c : Chunked) (k : Nat) (hwf : c.WF) (hk : k ≤ c.cur.length) :
    (c.consume k).rest = c.rest.drop k ∧ (c.consume k).WF ∧ (c.consume k).complete = c.complete := by
  unfold consume
  by_cases hd : c.cur.drop k = []
  · -- current chunk used up: move on
    obtain ⟨n1, n2, n3⟩ := nextChunk_spec { c with cur := [] } hwf.1
    simp only [hd, ↓reduceIte]
    exact ⟨by rw [n2, rest, List.drop_append_of_le_length hk, hd, List.nil_append], n1, n3⟩
  · simp only [hd, ↓reduceIte]
    exact ⟨by simp [rest, List.drop_append_of_le_length hk], ⟨hwf.1, fun h => absurd h hd⟩, trivial⟩

theorem consume_cur (c : Chunked) (k : Nat) : c.cur.drop k <+: (c.consume k).cur := by
  unfold consume
  by_cases hd : c.cur.drop k = []
  · rw [hd]; exact List.nil_prefix
  · simp [hd]

theorem read_spec (c : Chunked) (hwf : c.WF) (n : Nat) :
    (c.read n).1.WF ∧ (c.read n).1.complete = c.complete ∧
    (match (c.read n).2 with
     | .ok bs => bs ++ (c.read n).1.rest = c.rest ∧ bs.length ≤ n ∧
          (bs = [] → n = 0 ∨ (c.rest = [] ∧ c.complete = true))
     | .error .wouldBlock => (c.read n).1 = c ∧ c.rest = [] ∧ c.complete = false ∧ n ≠ 0
     | .error _ => False) := by
  unfold read
  by_cases h0 : n = 0
  · rw [if_pos h0]; exact ⟨hwf, rfl, by simp, by simp, fun _ => Or.inl h0⟩
  rw [if_neg h0]
  by_cases hwb : c.cur = [] ∧ c.complete = false
  · rw [if_pos hwb]; exact ⟨hwf, rfl, rfl, by simp [rest, hwb.1, hwf.2 hwb.1], hwb.2, h0⟩
  rw [if_neg hwb]
  by_cases hlt : n < c.cur.length
  · rw [if_pos hlt]
    have hne : c.cur.drop n ≠ [] := fun h => by have := List.drop_eq_nil_iff.mp h; omega
    refine ⟨⟨hwf.1, fun h => absurd h hne⟩, rfl, ?_, by rw [List.length_take]; omega, fun h => ?_⟩
    · simp [rest, ← List.append_assoc, List.take_append_drop]
    · rcases List.take_eq_nil_iff.mp h with h | h
      · exact absurd h h0
      · rw [h] at hlt; simp at hlt
  · rw [if_neg hlt]
    obtain ⟨n1, n2, n3⟩ := nextChunk_spec c hwf.1
    refine ⟨n1, n3, by rw [n2]; rfl, by omega, fun h => .inr ⟨by simp [rest, h, hwf.2 h], ?_⟩⟩
    cases hc : c.complete with
    | true => rfl
    | false => exact absurd ⟨h, hc⟩ hwb

/-- **C15**: any interleaving of `read`/`fill_buf`/`consume`/`clone` delivers the concatenation of the chunks,
each byte once and in order -/
theorem runOps_spec (c : Chunked) (hwf : c.WF) (ops : List Op) (d : List UInt8) :
    (runOps c ops d).1.WF ∧ (runOps c ops d).2 ++ (runOps c ops d).1.rest = d ++ c.rest ∧
    (runOps c ops d).1.complete = c.complete := by
  induction ops generalizing c d with
  | nil => simp [runOps, hwf]
  | cons op ops ih =>
    cases op with
    | fill => exact ih c hwf d
    | clone => exact ih c hwf d
    | consume k =>
      simp only [runOps]
      by_cases hk : k ≤ c.cur.length
      · simp only [hk, ↓reduceIte]
        obtain ⟨c1, c2, c3⟩ := consume_rest c k hwf hk
        obtain ⟨i1, i2, i3⟩ := ih (c.consume k) c2 (d ++ c.cur.take k)
        refine ⟨i1, ?_, i3.trans c3⟩
        rw [i2, c1, List.append_assoc]
        congr 1
        simp only [rest]
        rw [List.drop_append_of_le_length hk, ← List.append_assoc, List.take_append_drop]
      · simp [hk, hwf]
    | read n =>
      have hs := read_spec c hwf n
      simp only [runOps]
      generalize c.read n = x at hs ⊢
      obtain ⟨c', k | bs⟩ := x <;> dsimp only at hs ⊢ <;> obtain ⟨r1, r2, r3⟩ := hs
      · cases k
        · exact absurd r3 id
        · rw [← r3.1]; exact ih c' r1 d
        · exact absurd r3 id
      · obtain ⟨i1, i2, i3⟩ := ih c' r1 (d ++ bs)
        exact ⟨i1, by rw [i2, List.append_assoc, r3.1], i3.trans r2⟩

/-- end behaviour: complete ⇒ end of data (repeatedly); incomplete ⇒ `WouldBlock`, never end of data -/
theorem fillBuf_at_end (c : Chunked) (hwf : c.WF) (h : c.rest = []) :
    c.fillBuf = (if c.complete then .ok [] else .error .wouldBlock) := by
  have hc : c.cur = [] := by
    simp only [rest, List.append_eq_nil_iff] at h; exact h.1
  unfold fillBuf; cases c.complete <;> simp [hc]

theorem fillBuf_nonempty (c : Chunked) (hwf : c.WF) (h : c.rest ≠ []) :
    c.fillBuf = .ok c.cur ∧ c.cur ≠ [] := by
  have hc : c.cur ≠ [] := by
    intro hc; apply h; simp [rest, hc, hwf.2 hc]
  unfold fillBuf; simp [hc]

#print axioms runOps_spec
end Chunked
end Rbsp
