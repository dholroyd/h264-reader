import H264.DecodeNal
import H264.RbspFill
import H264.RbspInit
/-! C02: the one-shot decoder `decode_nal` computes the declarative un-escaping, and borrows only if nothing was removed -/
namespace Rbsp

/-- one round of a drain loop: `fill_buf`, then `consume` all of what it returned -/
theorem fill_consume_spec (r : BR) (hinv : Inv r) {buf : List UInt8} (h : (fillBuf r).2 = .ok buf) :
    Inv (consume (fillBuf r).1 buf.length) ∧
    view r = (buf ++ (view (consume (fillBuf r).1 buf.length)).1, (view (consume (fillBuf r).1 buf.length)).2) ∧
    (consume (fillBuf r).1 buf.length).inner.complete = r.inner.complete ∧
    (buf = [] → view r = ([], true)) := by
  obtain ⟨f1, f2, f3, _, f5⟩ := fillBuf_spec r hinv
  rw [h] at f5
  obtain ⟨hbuf, ⟨t, ht⟩, hemp⟩ := f5
  obtain ⟨c1, c2, c3, _⟩ := consume_spec (fillBuf r).1 f1 buf.length (by rw [hbuf, List.length_take]; omega)
  refine ⟨c1, Prod.ext ?_ ?_, c3.trans f3, fun hb => (hemp hb).1⟩
  · rw [c2, f2, ← ht]; simp
  · rw [c2, f2]

/-- every drained prefix plus the remaining view is the initial view -/
theorem drainLoop_spec (fuel : Nat) (r : BR) (hinv : Inv r) (acc : List UInt8) :
    match drainLoop fuel r acc with
    | (out, none) => ∃ rest, out ++ rest = acc ++ (view r).1
    | (out, some .invalidData) => (view r).2 = false ∧ ∃ rest, out ++ rest = acc ++ (view r).1
    | (out, some .wouldBlock) => r.inner.complete = false
    | (_, some .eof) => False := by
  induction fuel generalizing r acc with
  | zero => exact ⟨(view r).1, rfl⟩
  | succ fuel ih =>
    have hf := fillBuf_spec r hinv
    have hc := @fill_consume_spec r hinv
    unfold drainLoop
    generalize fillBuf r = x at hf hc ⊢
    obtain ⟨r', k | buf⟩ := x
    · cases k
      · exact hf.2.2.2.2
      · exact hf.2.2.2.2.1
      · exact ⟨hf.2.2.2.2, _, rfl⟩
    · obtain ⟨c1, c2, c3, _⟩ := hc rfl
      have := ih _ c1 (acc ++ buf)
      by_cases hb : buf = []
      · simp only [hb, ↓reduceIte]; exact ⟨_, rfl⟩
      · simp only [hb, ↓reduceIte]; rw [c2]; simp only [c3, List.append_assoc] at this ⊢; exact this

/-- if un-escaping keeps the length, nothing was removed and the input was valid -/
theorem unescFrom_same_length (st : PS) (hs : st = .start ∨ st = .oneZero ∨ st = .twoZero ∨ st = .postThree)
    (p : List UInt8) (h : (unescFrom st p).1.length = p.length) : unescFrom st p = (p, true) := by
  induction p generalizing st with
  | nil => exact unescFrom_nil st
  | cons b bs ih =>
    obtain ⟨st', hu, hp, hl⟩ := unescFrom_cons_full h
    rw [unescFrom_cons_some hu, ih st' hp hl]; rfl

/-- the drain loop with enough fuel collects the whole view, or reports the invalidity of the remainder -/
theorem drainLoop_full (fuel : Nat) (r : BR) (hinv : Inv r) (hc : r.inner.complete = true) (acc : List UInt8)
    (hf : (view r).1.length < fuel) :
    drainLoop fuel r acc = if (view r).2 then (acc ++ (view r).1, none)
                           else ((drainLoop fuel r acc).1, some .invalidData) := by
  induction fuel generalizing r acc with
  | zero => omega
  | succ fuel ih =>
    have hs := fillBuf_spec r hinv
    have hfc := @fill_consume_spec r hinv
    unfold drainLoop
    generalize fillBuf r = x at hs hfc ⊢
    obtain ⟨r', k | buf⟩ := x
    · cases k
      · exact absurd hs.2.2.2.2 id
      · have := hs.2.2.2.2.1; rw [hc] at this; cases this
      · simp [show (view r).2 = false from hs.2.2.2.2]
    · obtain ⟨c1, c2, c3, c4⟩ := hfc rfl
      by_cases hb : buf = []
      · simp [hb, c4 hb]
      · have hl : 0 < buf.length := List.length_pos_iff.mpr hb
        have := ih _ c1 (c3.trans hc) (acc ++ buf) (by rw [c2, List.length_append] at hf; simp only at hf ⊢; omega)
        simp only [hb, ↓reduceIte]
        rw [this, c2]; simp only [List.append_assoc]
        split <;> simp

/-- on input from which nothing is removed the scanner runs through to the end of the window -/
theorem scan_noescape (cl : Nat) (st : PS) (hs : plainState st) (i : Nat) (todo : List UInt8)
    (h : unescFrom st todo = (todo, true)) :
    ∃ st', scan cl st i todo = .done st' (i + todo.length) ∧ plainState st' := by
  induction todo generalizing st i with
  | nil => exact ⟨st, scan_nil .., hs⟩
  | cons b bs ih =>
    obtain ⟨st', hu, hp, hl⟩ := unescFrom_cons_full (by rw [h]; rfl)
    obtain ⟨st'', h1, h2⟩ := ih st' hp (i+1) (unescFrom_same_length st' hp bs hl)
    exact ⟨st'', by rw [scan_emit hu, h1, List.length_cons]; congr 1; omega, h2⟩

/-- **C02 (borrow rule)**: when nothing has to be removed, the decoder hands back the borrowed input (that it copies
otherwise is part of `decodeNal_eq`) -/
theorem decodeNal_borrows (nal : List UInt8) (h : unesc (nal.drop 1) = (nal.drop 1, true)) :
    decodeNal nal = .ok (true, nal.drop 1) := by
  cases nal with
  | nil => simp [decodeNal, fillBuf, fuelFor, fillLoop, tryFill, Chunked.fillBuf, Chunked.rest]
  | cons hd payload =>
    have hmf : (hd :: payload).length + 1 = payload.length + 2 := by simp
    -- first iteration: skip the header byte
    have t0 : tryFill (⟨⟨hd :: payload, [], true⟩, .skip 1, 0, payload.length + 2⟩ : BR) =
        (⟨⟨payload, [], true⟩, .start, 0, payload.length + 2⟩, .ok true) := by
      cases payload <;> simp [tryFill, Chunked.fillBuf, Chunked.consume, Chunked.nextChunk, scan_skip]
    by_cases hp : payload = []
    · subst hp
      simp [decodeNal, fillBuf, fuelFor, fillLoop, tryFill, Chunked.fillBuf, Chunked.rest, scan, Chunked.consume,
        Chunked.nextChunk]
    · -- second iteration: scan the whole payload
      rw [← unescFrom_start_eq] at h
      obtain ⟨st', hs, _⟩ := scan_noescape payload.length .start (Or.inl rfl) 0 payload h
      have t1 : tryFill (⟨⟨payload, [], true⟩, .start, 0, payload.length + 2⟩ : BR) =
          (⟨⟨payload, [], true⟩, st', payload.length, payload.length + 2⟩, .ok true) := by
        have hmin : min payload.length (payload.length + 2) = payload.length := by omega
        simp only [tryFill, Chunked.fillBuf, hp, false_and, ↓reduceIte, hmin, List.take_length, List.drop_zero, hs,
          Nat.zero_add]
      have hlen : payload.length ≠ 0 := fun hh => hp (List.length_eq_zero_iff.mp hh)
      have hfuel : fuelFor (⟨⟨hd :: payload, [], true⟩, .skip 1, 0, payload.length + 2⟩ : BR) = (2 * payload.length + 2) + 3 := by
        simp [fuelFor, Chunked.rest]; omega
      have hfill : fillBuf (⟨⟨hd :: payload, [], true⟩, .skip 1, 0, payload.length + 2⟩ : BR) =
          (⟨⟨payload, [], true⟩, st', payload.length, payload.length + 2⟩, .ok payload) := by
        unfold fillBuf
        rw [hfuel]
        simp only [fillLoop, ne_eq, not_true_eq_false, ↓reduceIte, t0, t1, hlen, not_false_eq_true, Chunked.fillBuf, hp,
          false_and, List.take_length]
      unfold decodeNal
      simp only [hmf, hfill, List.drop_succ_cons, List.drop_zero, ↓reduceIte]

/-- **C02 (one-shot decoder, complete)**: valid ⇒ the un-escaped payload, borrowed exactly when nothing was removed;
invalid ⇒ `InvalidData` -/
theorem decodeNal_eq (nal : List UInt8) :
    decodeNal nal =
      if (unesc (nal.drop 1)).2 then .ok (decide ((unesc (nal.drop 1)).1 = nal.drop 1), (unesc (nal.drop 1)).1)
      else .error .invalidData := by
  by_cases hfull : unesc (nal.drop 1) = (nal.drop 1, true)
  · rw [decodeNal_borrows nal hfull, hfull]; simp
  -- something is removed or invalid: the first `fill_buf` cannot return the whole payload
  have hinv : Inv ⟨⟨nal, [], true⟩, .skip 1, 0, nal.length + 1⟩ :=
    ⟨⟨by simp, by simp⟩, by simp, by simp, fun n hn => by injection hn with hn; subst hn; exact ⟨rfl, by omega⟩⟩
  have hview : view ⟨⟨nal, [], true⟩, .skip 1, 0, nal.length + 1⟩ = unesc (nal.drop 1) := by
    rw [← initState_unesc 1 nal]; simp [view, Chunked.rest, initState]
  have hs := fillBuf_spec _ hinv
  rw [hview] at hs
  unfold decodeNal
  dsimp only
  generalize fillBuf ⟨⟨nal, [], true⟩, .skip 1, 0, nal.length + 1⟩ = x at hs ⊢
  obtain ⟨r1, k | buf⟩ := x <;> obtain ⟨f1, f2, f3, _, f5⟩ := hs
  · cases k
    · exact absurd f5 id
    · cases f5.1
    · simp only [show (unesc (nal.drop 1)).2 = false from f5, Bool.false_eq_true, ↓reduceIte]
  · obtain ⟨_, ⟨t, ht⟩, _⟩ := f5
    have hle := NalSrc.unescFrom_length_le .start (nal.drop 1)
    have hsame := unescFrom_same_length .start (.inl rfl) (nal.drop 1)
    rw [unescFrom_start_eq] at hle hsame
    have hne : buf.length ≠ (nal.drop 1).length := fun hlen =>
      hfull (hsame (by rw [← ht, List.length_append] at hle ⊢; omega))
    have hd := drainLoop_full (nal.length + 2) r1 f1 f3 []
      (by rw [f2]; have : (nal.drop 1).length ≤ nal.length := by simp
          omega)
    simp only [hne, ↓reduceIte]
    rw [hd, f2, List.nil_append]
    by_cases hv : (unesc (nal.drop 1)).2 = true
    · rw [if_pos hv, if_pos hv, decide_eq_false fun h => hfull (Prod.ext h hv)]
    · rw [if_neg hv, if_neg hv]

/-- what a successful `decode_nal` returned is the un-escaped payload, and that was valid -/
theorem decodeNal_ok {nal : List UInt8} {b : Bool} {out : List UInt8} (h : decodeNal nal = .ok (b, out)) :
    unesc (nal.drop 1) = (out, true) := by
  rw [decodeNal_eq] at h
  split at h
  · rename_i hv
    simp only [Except.ok.injEq, Prod.mk.injEq] at h
    exact Prod.ext h.2 hv
  · cases h

#print axioms drainLoop_spec
end Rbsp
