import H264.BitsProofRows
/-! theorems of `BitsProof` that belong to C07 (one module per property: DESIGN.md 14.7) -/
namespace BitsProof
open Bits

theorem bits_ue_model_eq_code : ∀ b0 : Fin 256, ∀ j : Fin 24,
    ueRow b0.val j.val = (Generated.bitsUe.getD b0.val []).getD j.val (9, 9, 9) :=
  getD_getD_of_map_range (f := ueRow) (by
    rw [rows_split ueRow (fun s => match readUe "f" s with
      | .ok (v, s') => (1, v, s'.bits.length)
      | .error e => (errCode e, 0, 0)) fun _ _ => rfl]
    decide +kernel) _

theorem bits_se_model_eq_code : ∀ b0 : Fin 256, ∀ j : Fin 24,
    seRow b0.val j.val = (Generated.bitsSe.getD b0.val []).getD j.val (9, 9, 9) :=
  getD_getD_of_map_range (f := seRow) (by
    rw [rows_split seRow (fun s => match readSe "f" s with
      | .ok (v, s') => (1, (if v < 0 then 2 * v.natAbs + 1 else 2 * v.natAbs), s'.bits.length)
      | .error e => (errCode e, 0, 0)) fun _ _ => rfl]
    decide +kernel) _

end BitsProof
