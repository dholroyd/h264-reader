import H264.AnnexBSpec
import H264.AnnexBShapes
/-! Arbitrary interleavings of `push` and `reset` (C01 prefixes, C18 reset at arbitrary points) -/
namespace AnnexB
open St

inductive Op | push (b : List UInt8) | reset
deriving DecidableEq, Repr

/-- the reader driven by an arbitrary sequence of pushes and resets -/
def runOps : St → List Op → St × List Call
  | s, [] => (s, [])
  | s, .push b :: ops => let r := AnnexB.push s b; let r' := runOps r.1 ops; (r'.1, r.2 ++ r'.2)
  | s, .reset :: ops => let r := AnnexB.reset s; let r' := runOps r.1 ops; (r'.1, r.2 ++ r'.2)

/-- specification: each reset-delimited portion is segmented on its own; the open tail has delivered what the
byte machine has emitted for it so far -/
def specOps : List UInt8 → List Op → List Ev
  | acc, [] => (run start acc).2
  | acc, .push b :: ops => specOps (acc ++ b) ops
  | acc, .reset :: ops => outside acc ++ specOps [] ops

theorem runOps_spec (acc : List UInt8) (ops : List Op) :
    (run start acc).2 ++ events (runOps (run start acc).1 ops).2 = specOps acc ops := by
  induction ops generalizing acc with
  | nil => simp [runOps, specOps, events]
  | cons op ops ih =>
    cases op with
    | push b =>
      obtain ⟨p1, p2⟩ := push_refines_run (run start acc).1 b
      have ha := run_append start acc b
      simp only [runOps, specOps, events_append]
      rw [← ih (acc ++ b), ha, p1, p2]
      simp [List.append_assoc]
    | reset =>
      have h0 : events (runOps start ops).2 = specOps [] ops := ih []
      simp only [runOps, specOps, events_append, events_reset, reset_fresh]
      rw [h0, ← List.append_assoc, run_spec]
      rfl

theorem runOps_start (ops : List Op) : events (runOps St.start ops).2 = specOps [] ops :=
  runOps_spec [] ops

theorem runOps_shaped (s : St) (ops : List Op) : ∀ c ∈ (runOps s ops).2, c.WellShaped := by
  induction ops generalizing s with
  | nil => simp [runOps]
  | cons op ops ih =>
    intro c hc
    cases op <;> simp only [runOps, List.mem_append] at hc <;> rcases hc with hc | hc
    · exact push_shaped s _ c hc
    · exact ih _ c hc
    · exact reset_shaped s c hc
    · exact ih _ c hc

theorem pushAll_eq_runOps (s : St) (chunks : List (List UInt8)) : pushAll s chunks = runOps s (chunks.map .push) := by
  induction chunks generalizing s with
  | nil => rfl
  | cons c cs ih => simp only [pushAll, List.map_cons, runOps, ih]

/-- a reset inside a unit makes exactly one call, and that call ends the unit -/
theorem reset_ends_once (s : St) (n : Nat) (h : backtrack s = some n) :
    ∃ c, (AnnexB.reset s).2 = [c] ∧ c.fin = true := by
  cases s <;> simp [backtrack] at h <;> subst h <;> simp [AnnexB.reset, backtrack]

/-- after a reset, whatever happened before, the continuation is that of a fresh reader -/
theorem after_reset_fresh (s : St) (ops : List Op) :
    (runOps s (.reset :: ops)).2 = (AnnexB.reset s).2 ++ (runOps start ops).2 ∧
    (runOps s (.reset :: ops)).1 = (runOps start ops).1 := by
  simp [runOps, reset_fresh]

end AnnexB
