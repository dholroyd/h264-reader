import H264.SpsC04
/-! `C04_forward` in the form in which the sweeps over encoded SPS use it -/
namespace Sps


/-- a bit string shown to be the encoding of a well-formed `v` parses to `v`; as a rewrite rule it turns any
`parseSps ⟨bits, .eof⟩` into its value and leaves the encoding equation as the goal -/
theorem parseSps_of_enc {v : Sps} {sm : Option ScalingSyntax} {z : Nat} {bits : List Bool} (wf : v.WF sm)
    (hmvc : mvcOnlyProfile v.profileIdc = false) (h : bits = encSps v sm ++ trailing z) :
    parseSps ⟨bits, .eof⟩ = .ok (v, ⟨[], .eof⟩) :=
  h ▸ C04_forward v sm wf hmvc z

end Sps
