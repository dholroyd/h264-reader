import H264.RbspRead
import H264.RbspInit
/-! What the parsers see of a NAL (`NalSrc.drain`) in terms of the declarative un-escaping -/
namespace NalSrc
open Rbsp

theorem drainGo_valid (fuel : Nat) (r : BR) (acc : List UInt8) (hinv : Inv r) (hv : (view r).2 = true)
    (hf : (view r).1.length < fuel) :
    drainGo fuel r acc = (acc ++ (view r).1, if r.inner.complete then .eof else .wouldBlock) := by
  induction fuel generalizing r acc with
  | zero => omega
  | succ fuel ih =>
    have hs := read_spec r hinv 1
    unfold drainGo
    generalize Rbsp.read r 1 = x at hs ⊢
    obtain ⟨r', k | bs⟩ := x <;> dsimp only at hs ⊢ <;> obtain ⟨r1, r2, r3⟩ := hs
    · cases k
      · exact absurd r3 id
      · simp [r3.2.2, r3.2.1]
      · rw [r3.2] at hv; cases hv
    · obtain ⟨hbs, hlen, hview', hemp⟩ := r3
      by_cases hb : bs = []
      · rcases hemp hb with h0 | ⟨hview, hc⟩
        · omega
        · simp [hb, hview, hc]
      · simp only [hb, ↓reduceIte]
        have happ := List.take_append_drop bs.length (view r).1
        rw [← hbs] at happ
        have hpos := List.length_pos_iff.mpr hb
        rw [ih r' (acc ++ bs) r1 (by rw [hview']; exact hv)
          (by rw [← happ, List.length_append] at hf; rw [hview']; dsimp only; omega), hview', r2, List.append_assoc, happ]

/-- a fresh reader over a NAL free of forbidden sequences drains to exactly the un-escaped payload, ending in
`eof` when the NAL is complete and `wouldBlock` when it is not -/
theorem drain_valid (chunks : List (List UInt8)) (complete : Bool) (skip maxFill : Nat)
    (hne : ∀ c ∈ chunks, c ≠ []) (hmf : 1 ≤ maxFill)
    (hv : (unesc (chunks.flatten.drop skip)).2 = true) :
    drain (initReader chunks complete skip maxFill) =
      ((unesc (chunks.flatten.drop skip)).1, if complete then .eof else .wouldBlock) := by
  have hinv := initReader_inv chunks complete skip maxFill hne hmf
  have hview := initReader_view_unesc chunks complete skip maxFill
  have hlen : (view (initReader chunks complete skip maxFill)).1.length <
      (initReader chunks complete skip maxFill).inner.rest.length + 2 := by
    rw [initReader_view]
    have := unescFrom_length_le (initState skip) chunks.flatten
    simp only [initReader, mkChunked_rest]; omega
  unfold drain
  rw [drainGo_valid _ _ _ hinv (by rw [hview]; exact hv) hlen, hview]
  congr 1
  cases chunks <;> rfl

/-- what `RefNal::rbsp_bytes()` delivers of a valid NAL -/
theorem drain_rbspBytes (chunks : List (List UInt8)) (complete : Bool) (hne : ∀ c ∈ chunks, c ≠ [])
    (hv : (unesc (chunks.flatten.drop 1)).2 = true) :
    drain (rbspBytes chunks complete) =
      ((unesc (chunks.flatten.drop 1)).1, if complete then .eof else .wouldBlock) := by
  rw [rbspBytes_eq]; exact drain_valid chunks complete 1 128 hne (by omega) hv

/-- `RefNal::rbsp_bits()` of a valid NAL: the bits of the un-escaped payload after the header byte, independent of
the chunking -/
theorem srcOfNal_valid (chunks : List (List UInt8)) (complete : Bool) (hne : ∀ c ∈ chunks, c ≠ [])
    (hv : (unesc (chunks.flatten.drop 1)).2 = true) :
    srcOfNal chunks complete = ⟨bitsOfBytes (unesc (chunks.flatten.drop 1)).1, if complete then .eof else .wouldBlock⟩ := by
  unfold srcOfNal
  rw [drain_rbspBytes chunks complete hne hv]
  cases complete <;> rfl

theorem srcOfNal_single (nal : List UInt8) (hnn : nal ≠ []) (hv : (unesc (nal.drop 1)).2 = true) :
    srcOfNal [nal] true = ⟨bitsOfBytes (unesc (nal.drop 1)).1, .eof⟩ := by
  have h := srcOfNal_valid [nal] true (by simpa using hnn) (by simpa using hv)
  simpa using h

/-- what the parsers see of a valid complete NAL does not depend on how it is cut into chunks -/
theorem srcOfNal_flatten (chunks : List (List UInt8)) (hne : ∀ c ∈ chunks, c ≠ [])
    (hv : (unesc (chunks.flatten.drop 1)).2 = true) (hnn : chunks.flatten ≠ []) :
    srcOfNal chunks true = srcOfNal [chunks.flatten] true := by
  rw [srcOfNal_valid chunks true hne hv, srcOfNal_single chunks.flatten hnn hv]; rfl

end NalSrc
